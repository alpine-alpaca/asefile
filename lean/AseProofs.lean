import AseProofs.Lemmas.Assoc
import AseProofs.Lemmas.Attach
import AseProofs.Lemmas.AttachFacts
import AseProofs.Lemmas.AttachFrames
import AseProofs.Lemmas.AttachMachine
import AseProofs.Lemmas.AttachSim
import AseProofs.Lemmas.BlendInt
import AseProofs.Lemmas.CtxBlind
import AseProofs.Lemmas.Decoders
import AseProofs.Lemmas.ExactFloat
import AseProofs.Lemmas.Footprint
import AseProofs.Lemmas.FootprintMachine
import AseProofs.Lemmas.InflateStored
import AseProofs.Lemmas.InflateT
import AseProofs.Lemmas.InflateVectors
import AseProofs.Lemmas.Machine
import AseProofs.Lemmas.NoPanic
import AseProofs.Lemmas.NoPanicParse
import AseProofs.Lemmas.OldPalette
import AseProofs.Lemmas.Paint
import AseProofs.Lemmas.Post
import AseProofs.Lemmas.Raster
import AseProofs.Lemmas.RasterSpec
import AseProofs.Lemmas.RasterTile
import AseProofs.Lemmas.RenderLoops
import AseProofs.Lemmas.RoundTrip
import AseProofs.Lemmas.Run
import AseProofs.Lemmas.RunCels
import AseProofs.Lemmas.RunCore
import AseProofs.Lemmas.SatC
import AseProofs.Lemmas.SimpAttr
import AseProofs.Lemmas.Uniform
import AseProofs.Lemmas.Util
import AseProofs.Lemmas.Valid
import AseProofs.Lemmas.ValidParse
import AseProofs.Lemmas.ValidRender
import AseProofs.Lemmas.ValidateTables
import AseProofs.Props.C01
import AseProofs.Props.C01Frames
import AseProofs.Props.C01Lookups
import AseProofs.Props.C01Tables
import AseProofs.Props.C01Raw
import AseProofs.Props.C01Whole
import AseProofs.Props.C02
import AseProofs.Props.C02Pointwise
import AseProofs.Props.C03
import AseProofs.Props.C03Dispatch
import AseProofs.Props.C04
import AseProofs.Props.C05
import AseProofs.Props.C05Load
import AseProofs.Props.C06
import AseProofs.Props.C06Pointwise
import AseProofs.Props.C07
import AseProofs.Props.C07Frames
import AseProofs.Props.C07Inflate
import AseProofs.Props.C08
import AseProofs.Props.C08Pointwise
import AseProofs.Props.C09
import AseProofs.Props.C10
import AseProofs.Props.C10Flags
import AseProofs.Props.C10Sprite
import AseProofs.Props.C10Tags
import AseProofs.Props.C11
import AseProofs.Props.C11Packets
import AseProofs.Props.C12
import AseProofs.Props.C12Driver
import AseProofs.Props.C12Footprint
import AseProofs.Props.C12Inflate
import AseProofs.Props.C13
import AseProofs.Props.C13EmptyFrame
import AseProofs.Props.C14
import AseProofs.Props.C15
import AseProofs.Props.C15Tags
import AseProofs.Props.C16
import AseProofs.Props.C16Render
import AseProofs.Props.C17
import AseProofs.Props.C17Exact
import AseProofs.Props.C18
import AseProofs.Props.C19
