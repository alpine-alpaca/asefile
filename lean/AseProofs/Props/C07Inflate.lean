import AseProofs.Lemmas.InflateT
import AseProofs.Lemmas.InflateVectors
/-
  Property C07, the inflater side: the zlib-compressed payload of a chunk may be followed by
  padding.  The total inflater `Ase.ZlibT.inflate` stops at the Adler-32 trailer of the zlib
  stream; whatever bytes follow a complete stream do not change its result.
-/
namespace Ase.Proofs.C07
open Ase

/-- `inflateT_append_irrelevant` at the `ByteArray` level of the decoder proper -/
theorem inflateZlibT_append_irrelevant (data extra out : ByteArray)
    (h : ZlibT.inflateZlib data = .ok out) : ZlibT.inflateZlib (data ++ extra) = .ok out :=
  ((ZlibT.inflateZlib_sat (ZlibT.ext_append data extra)).2 out h).2

/-- **C07**, padding behind a compressed payload: bytes after a complete zlib stream do not
    matter -/
theorem inflateT_append_irrelevant (z pad out : Bytes) (h : ZlibT.inflate z = .ok out) :
    ZlibT.inflate (z ++ pad) = .ok out := by
  unfold ZlibT.inflate at h ⊢
  split at h
  · rename_i o ho
    rw [ZlibT.mk_toArray_append, inflateZlibT_append_irrelevant _ _ _ ho]
    exact h
  · cases h
  · cases h

-- the streams of `C12Inflate`: "hello hello hello" + 3 bytes
example :
    ZlibT.inflate
      ([0x78,0xda,0xcb,0x48,0xcd,0xc9,0xc9,0x57,0xc8,0x40,0x90,0x00,0x3a,0x2e,0x06,0x7d]
        ++ [0xde,0xad,0x00])
    = .ok [0x68,0x65,0x6c,0x6c,0x6f,0x20,0x68,0x65,0x6c,0x6c,0x6f,0x20,0x68,0x65,0x6c,0x6c,0x6f] :=
  inflateT_append_irrelevant _ _ _ ZlibT.inflate_hello

-- "stored!" + 5 bytes that look like another stream header
example :
    ZlibT.inflate
      ([0x78,0x01,0x01,0x07,0x00,0xf8,0xff,0x73,0x74,0x6f,0x72,0x65,0x64,0x21,0x0b,0xef,0x02,0xb3]
        ++ [0x78,0x9c,0x03,0xff,0xff])
    = .ok [0x73,0x74,0x6f,0x72,0x65,0x64,0x21] :=
  inflateT_append_irrelevant _ _ _ ZlibT.inflate_stored

-- the 42 bytes over "abc" + 1 byte
example :
    ZlibT.inflate
      ([0x78,0xda,0x25,0x88,0x81,0x09,0x00,0x00,0x08,0x83,0x6e,0xd5,0xfe,0xff,0x21,0x23,
        0x10,0x71,0x93,0xc1,0x10,0x2a,0xae,0x53,0xf3,0x1f,0xc3,0xdc,0xbf,0x58,0xcd,0x10,0x0a]
        ++ [0xff])
    = .ok [0x62,0x61,0x63,0x61,0x62,0x63,0x61,0x62,0x62,0x61,0x61,0x61,0x63,0x61,0x61,0x61,
      0x62,0x63,0x61,0x61,0x61,0x62,0x62,0x62,0x61,0x62,0x62,0x61,0x61,0x61,0x63,0x62,0x61,0x63,
      0x62,0x62,0x63,0x62,0x61,0x61,0x62,0x63] :=
  inflateT_append_irrelevant _ _ _ ZlibT.inflate_abc

-- the empty payload + arbitrary padding
example (pad : Bytes) :
    ZlibT.inflate ([0x78,0x9c,0x03,0x00,0x00,0x00,0x00,0x01] ++ pad) = .ok [] :=
  inflateT_append_irrelevant _ pad _ ZlibT.inflate_empty

-- the hypothesis is needed: a truncated stream is an error, and padding can turn that error
-- into a different one (here `eof` becomes a checksum mismatch)
example :
    ZlibT.inflate [0x78,0xda,0xcb,0x48,0xcd,0xc9,0xc9,0x57,0xc8,0x40,0x90,0x00,0x3a,0x2e,0x06]
    = .err (.io .unexpectedEof) :=
  ZlibT.inflate_hello_short

example :
    ZlibT.inflate
      ([0x78,0xda,0xcb,0x48,0xcd,0xc9,0xc9,0x57,0xc8,0x40,0x90,0x00,0x3a,0x2e,0x06] ++ [0x00])
    = .err (.io (.other 1)) := by
  rw [ZlibT.inflate, ZlibT.inflateZlib, ZlibT.blocks_hello (by decide)]
  decide +kernel

end Ase.Proofs.C07
