import AseProofs.Lemmas.ValidParse
import AseProofs.Props.C09
import AseProofs.Props.C11
/-
  C05, the load: what the validation stage establishes from the invariant of the state machine,
  and `parse_valid`: whatever `parse` returns satisfies `Valid`.
-/
namespace Ase.Proofs.C05
open Ase Ase.Proofs Ase.Proofs.Machine Ase.Proofs.C10

theorem validatePixels_ok (pal : Option Palette) (fmt : PixelFormat) (bg : Bool)
    (raw : RawPixels) (px : Pixels) (h : validatePixels pal fmt bg raw = .ok px) :
    pxSize px = rawSize raw ∧ PixelsOk pal px := by
  cases raw with
  | indexed a =>
      obtain ⟨p, tci, hp, _, hout, hall⟩ := C11.indexed_complete pal fmt bg a px h
      subst hout
      exact ⟨rfl, p, hp, hall⟩
  | _ => simp only [validatePixels, Res.ok.injEq] at h; subst h; exact ⟨rfl, trivial⟩

theorem TilesetRel.ok {pal : Option Palette} {fmt : PixelFormat} {t : Tileset RawPixels}
    {t' : Tileset Pixels} (h : TilesetRel pal fmt t t') (ht : RawTilesetOk t) :
    TilesetOk pal t' := by
  obtain ⟨raw, px, hraw, hpx, rfl⟩ := h
  obtain ⟨hsz, hok⟩ := validatePixels_ok pal fmt false raw px hpx
  exact ⟨ht.1, ht.2.1, px, rfl, by rw [hsz]; exact ht.2.2 raw hraw, hok⟩

/-- `hlink`: the linkable cels of the unvalidated table are still there, and raw, in `cels'` -/
theorem validateCel_celOk {layers : Array LayerData} {tilesets : List (Nat × Tileset Pixels)}
    {pal : Option Palette} {fmt : PixelFormat} {numFrames : Nat}
    {cels : Array (FrameCels RawPixels)} {cels' : Array (FrameCels Pixels)} {k : Nat}
    {c : RawCel RawPixels} {c' : RawCel Pixels}
    (hlayers : validateLayers tilesets layers = true)
    (hlink : ∀ f, isLinkable numFrames cels f k = true → f < numFrames ∧
      ∃ row t, cels'[f]? = some row ∧ FrameCels.get? k row = some t ∧ t.content.isRaw = true)
    (hidx : c.data.layerIndex.toNat = k) (hc : RawContentOk c.content)
    (h : validateCel layers tilesets pal fmt numFrames cels k c = .ok c') :
    CelOk layers tilesets pal numFrames cels' k c' := by
  obtain ⟨ld, hld, hv⟩ := (validateCel_spec _ _).of_ok h
  have hlt := (Array.getElem?_eq_some_iff.mp hld).1
  cases hv with
  | raw hpx =>
      obtain ⟨hsz, hok⟩ := validatePixels_ok _ _ _ _ _ hpx
      exact ⟨hidx, hlt, by rw [hsz]; exact hc, hok⟩
  | linked hl => exact ⟨hidx, hlt, hlink _ hl⟩
  | tilemap hlt' hall =>
      -- the layer's tileset exists (`validateLayers`), so the ids were checked against it
      obtain ⟨ts, hts⟩ := Option.isSome_iff_exists.mp
        (validateLayers_tilemap hlayers (Array.mem_of_getElem? hld) hlt')
      refine ⟨hidx, hlt, ld, _, ts, hld, hlt', hts, hc, fun id hid => ?_⟩
      obtain ⟨ts', hts', hlt''⟩ := hall id hid
      rw [hts] at hts'
      cases hts'
      exact hlt''

theorem isLinkable_validated {layers : Array LayerData} {tilesets : List (Nat × Tileset Pixels)}
    {pal : Option Palette} {fmt : PixelFormat} {numFrames : Nat}
    {cels : Array (FrameCels RawPixels)} {rows : List (FrameCels Pixels)}
    (hrel : All₂ (RowRel layers tilesets pal fmt numFrames cels) cels.toList rows) {f k : Nat}
    (hl : isLinkable numFrames cels f k = true) :
    f < numFrames ∧ ∃ row t, rows.toArray[f]? = some row ∧ FrameCels.get? k row = some t ∧
      t.content.isRaw = true := by
  simp only [isLinkable, Bool.and_eq_true, decide_eq_true_eq, ← Array.getElem?_toList] at hl
  refine ⟨hl.1, ?_⟩
  -- row `f` exists on both sides or on neither; `hl.2` excludes the latter
  rcases hrel.getElem?_rel f with ⟨h0, _⟩ | ⟨r, r', hr, hr', hrr⟩
  · simp only [h0] at hl
    cases hl.2
  · simp only [hr] at hl
    rcases All₂.assocGet? (R := fun k c c' => k < layers.size ∧
        validateCel layers tilesets pal fmt numFrames cels k c = .ok c') hrr k with
      ⟨h0, _⟩ | ⟨t, t', ht, ht', _, hval⟩
    · simp only [show FrameCels.get? k r = none from h0] at hl
      cases hl.2
    · simp only [show FrameCels.get? k r = some t from ht] at hl
      refine ⟨r', t', by simpa using hr', ht', ?_⟩
      rw [validateCel_isRaw hval]
      exact hl.2

theorem validate_valid (h : Header) (fmt : PixelFormat) (pi : ParseInfo) (s : Sprite)
    (hinv : PInv h.numFrames.toNat pi) (hv : validate h fmt pi = .ok s) : Valid s := by
  obtain ⟨parents, tilesets, rows, hpar, hts, hlayers, hrows, rfl⟩ := validate_eq_ok hv
  have hrel := validateRows_rel hrows
  obtain ⟨hp1, hp2⟩ := C09.parents_lt pi.layers parents hpar
  refine {
    parents_size := hp1
    parents_lt := hp2
    cels_size := ?cels_size
    cel_ok := ?cel_ok
    tileset_ok := ?tileset_ok
    layer_tileset := fun ld hld tsid hlt => validateLayers_tilemap hlayers hld hlt }
  case cels_size =>
    simp only [List.size_toArray]
    rw [← hrel.length_eq]
    simpa using hinv.1
  case cel_ok =>
    intro row' hrow' p' hp'
    simp only [List.mem_toArray] at hrow'
    obtain ⟨row, hrow, hrr⟩ := hrel.mem_right hrow'
    obtain ⟨p, hp, hk, _, hval⟩ := All₂.mem_right hrr hp'
    obtain ⟨hidx, hc⟩ := hinv.2.1 row (by simpa using hrow) p hp
    rw [hk]
    exact validateCel_celOk hlayers (fun f => isLinkable_validated hrel) hidx hc hval
  case tileset_ok =>
    intro p' hp'
    obtain ⟨p, hp, _, hrel⟩ := ((rsat_validateTilesets _ _ _).of_ok hts).mem_right hp'
    exact hrel.ok (hinv.2.2 p hp)

/-- `parse_valid` for any byte source -/
theorem parseFile_valid {σ : Type} (S : Src σ) (inflate : Inflate) (m : Profile) :
    Post Valid (parseFile S inflate m) := by
  intro st s st' h
  obtain ⟨hd, s1, fmt, pi, _, _, _, hfr, hv⟩ := parseFile_eq_ok h
  exact validate_valid hd fmt pi s (parseFrames_induct
    (fun p c _ h => ((C12.decodeChunk_spec inflate m fmt p c).of_ok h).1)
    (fun _ _ h => h) pinv_stepSem (pinv_new _ _) _ _ _ hfr) hv

/-- **C05 (load establishes the invariant)**: whatever `parse` returns — for every byte
    string, every `inflate` parameter, both build profiles — satisfies `Valid`. -/
theorem parse_valid (inflate : Inflate) (m : Profile) (bs : Bytes) (s : Sprite)
    (h : parse inflate m bs = .ok s) : Valid s := by
  obtain ⟨rest, hp⟩ := parse_eq_ok h
  exact parseFile_valid bytesSrc inflate m bs s rest hp

end Ase.Proofs.C05
