import AseProofs.Lemmas.Machine
import AseProofs.Lemmas.Assoc
/-
  C10 (tags chunks): a Tags chunk in frame 0 REPLACES the tag list and restarts the tag
  context at tag 0, whatever tags / context were there before (so a second Tags chunk discards
  the first one's tags together with their records); a Tags chunk in a later frame is decoded
  (its errors are reported) and otherwise ignored; the records that follow a frame-0 Tags chunk
  go to its tags 0, 1, 2, … in order.
-/
namespace Ase.Proofs.C10
open Ase

structure AgreeExceptTagsCtx (pi1 pi2 : ParseInfo) : Prop where
  palette : pi1.palette = pi2.palette
  layers : pi1.layers = pi2.layers
  cels : pi1.cels = pi2.cels
  frameTimes : pi1.frameTimes = pi2.frameTimes
  extFiles : pi1.extFiles = pi2.extFiles
  tilesets : pi1.tilesets = pi2.tilesets
  spriteUserData : pi1.spriteUserData = pi2.spriteUserData
  slices : pi1.slices = pi2.slices

theorem AgreeExceptTagsCtx.with_eq {pi1 pi2 : ParseInfo} (h : AgreeExceptTagsCtx pi1 pi2)
    (t : Option (Array Tag)) (c : Option UDCtx) :
    { pi1 with tags := t, ctx := c } = { pi2 with tags := t, ctx := c } := by
  obtain ⟨h1, h2, h3, h4, h5, h6, h7, h8⟩ := h
  cases pi1; cases pi2
  simp only at h1 h2 h3 h4 h5 h6 h7 h8
  simp only [h1, h2, h3, h4, h5, h6, h7, h8]

/-- **C10, Tags chunks (a)**: a Tags chunk in frame 0 whose payload parses to `ts` replaces the
    tags and the context of ANY state and keeps its other fields; hence two states that agree on
    all fields except `tags` and `ctx` are sent to the same state. -/
theorem tags_chunk_replaces (inflate : Inflate) (m : Profile) (fmt : PixelFormat)
    (pi1 pi2 : ParseInfo) (c : Chunk) (ts : List Tag) (hty : c.ty = .tags)
    (hp : runChunk parseTagsChunk c.data = .ok ts) (hag : AgreeExceptTagsCtx pi1 pi2) :
    processChunk inflate m fmt 0 pi1 c =
        .ok { pi1 with tags := some ts.toArray, ctx := some (.tag 0) } ∧
    processChunk inflate m fmt 0 pi1 c = processChunk inflate m fmt 0 pi2 c := by
  rw [processChunk_tags hty, processChunk_tags hty, hp]
  simp only [Res.map_ok, if_true, hag.with_eq, and_self]

/-- **C10, Tags chunks (a)**, also for payloads that do not parse: in frame 0 the result of ANY
    Tags chunk (state, error or panic) does not depend on the old `tags` and `ctx`. -/
theorem tags_chunk_replaces_any (inflate : Inflate) (m : Profile) (fmt : PixelFormat)
    (pi1 pi2 : ParseInfo) (c : Chunk) (hty : c.ty = .tags) (hag : AgreeExceptTagsCtx pi1 pi2) :
    processChunk inflate m fmt 0 pi1 c = processChunk inflate m fmt 0 pi2 c := by
  rw [processChunk_tags hty, processChunk_tags hty]
  simp only [if_true, hag.with_eq]

/-- **C10, Tags chunks (b)**: in a frame other than 0, a Tags chunk that parses leaves the state
    unchanged, and one that does not parse gives the failure it gives in frame 0 (from any state
    `pi0`). -/
theorem tags_chunk_later_frame_ignored (inflate : Inflate) (m : Profile) (fmt : PixelFormat)
    (frame : Nat) (hframe : frame ≠ 0) (pi : ParseInfo) (c : Chunk) (hty : c.ty = .tags) :
    (∀ ts, runChunk parseTagsChunk c.data = .ok ts →
      processChunk inflate m fmt frame pi c = .ok pi) ∧
    ((∀ ts, runChunk parseTagsChunk c.data ≠ .ok ts) → ∀ pi0,
      processChunk inflate m fmt frame pi c = processChunk inflate m fmt 0 pi0 c) ∧
    (∀ e, runChunk parseTagsChunk c.data = .err e →
      processChunk inflate m fmt frame pi c = .err e ∧
      processChunk inflate m fmt 0 pi c = .err e) ∧
    (∀ p, runChunk parseTagsChunk c.data = .panic p →
      processChunk inflate m fmt frame pi c = .panic p ∧
      processChunk inflate m fmt 0 pi c = .panic p) := by
  simp only [processChunk_tags hty]
  cases runChunk parseTagsChunk c.data with
  | ok ts =>
      exact ⟨fun _ _ => by simp only [Res.map_ok, hframe, if_false], fun hno => absurd rfl (hno ts),
        fun _ => nofun, fun _ => nofun⟩
  | err e =>
      exact ⟨fun _ => nofun, fun _ _ => rfl, fun _ he => by cases he; exact ⟨rfl, rfl⟩,
        fun _ => nofun⟩
  | panic p =>
      exact ⟨fun _ => nofun, fun _ _ => rfl, fun _ => nofun,
        fun _ he => by cases he; exact ⟨rfl, rfl⟩⟩

def IsRecord (c : Chunk) (ud : UserData) : Prop :=
  c.ty = .userData ∧ runChunk parseUserDataChunk c.data = .ok ud

def setRec (ud : UserData) (t : Tag) : Tag := { t with userData := some ud }

theorem setUD_modify {α} (arr : Array α) (i : Nat) (f : α → α) (hi : i < arr.size) :
    setUD arr i f = some (arr.modify i f) :=
  setUD_eq_some.mpr ⟨arr[i], Array.getElem?_eq_getElem hi, by
    apply Array.ext_getElem?
    intro k
    simp only [Array.getElem?_modify, Array.set!_eq_setIfInBounds,
      Array.getElem?_setIfInBounds, hi]
    split
    · subst i; simp [hi]
    · rfl⟩

theorem processChunk_record_tag {inflate : Inflate} {m : Profile} {fmt : PixelFormat}
    {frame : Nat} {pi : ParseInfo} {arr : Array Tag} {j : Nat} (hj : j < arr.size) {c : Chunk}
    {ud : UserData} (hc : IsRecord c ud) :
    processChunk inflate m fmt frame { pi with tags := some arr, ctx := some (.tag j) } c =
      .ok { pi with tags := some (arr.modify j (setRec ud)), ctx := some (.tag (j + 1)) } := by
  unfold processChunk
  simp only [hc.1, hc.2, Res.bind_ok, ParseInfo.addUserData]
  rw [setUD_modify _ _ _ hj]
  rfl

/-- `j`: the tag the context points at; `i`: a tag below it, untouched; `d`: the `d`-th record goes
    to tag `j + d`, and the tags beyond the last record are untouched too -/
theorem processChunks_records_tag (inflate : Inflate) (m : Profile) (fmt : PixelFormat)
    (frame : Nat) (pi : ParseInfo) : ∀ (cs : List Chunk) (uds : List UserData)
    (_ : All₂ IsRecord cs uds) (arr : Array Tag) (j : Nat) (_ : j + uds.length ≤ arr.size),
    ∃ arr' : Array Tag,
      processChunks inflate m fmt frame { pi with tags := some arr, ctx := some (.tag j) } cs =
        .ok { pi with tags := some arr', ctx := some (.tag (j + uds.length)) } ∧
      arr'.size = arr.size ∧ (∀ i, i < j → arr'[i]? = arr[i]?) ∧
      ∀ d, arr'[j + d]? = arr[j + d]?.map fun t => (uds[d]?.map fun u => setRec u t).getD t := by
  intro cs uds h
  induction h with
  | nil => exact fun arr j _ => ⟨arr, rfl, rfl, fun _ _ => rfl, fun d => by simp⟩
  | @cons c u cs us hc _ ih =>
      intro arr j hj
      simp only [List.length_cons] at hj
      obtain ⟨arr', hrun, hsz, h1, h2⟩ := ih (arr.modify j (setRec u)) (j + 1)
        (by simp only [Array.size_modify]; omega)
      refine ⟨arr', ?_, by rw [hsz, Array.size_modify], fun i hi => ?_, fun d => ?_⟩
      · simp only [processChunks]
        rw [processChunk_record_tag (by omega) hc]
        simp only [hrun, List.length_cons]
        -- the states differ in the tag index of the context: `j + 1 + us.length` on the left
        congr 4
        omega
      · rw [h1 i (by omega), Array.getElem?_modify, if_neg (by omega)]
      · cases d with
        | zero =>
            simp only [Nat.add_zero]
            rw [h1 j (by omega), Array.getElem?_modify, if_pos rfl]
            rfl
        | succ d =>
            rw [show j + (d + 1) = j + 1 + d by omega, h2 d, Array.getElem?_modify,
              if_neg (by omega)]
            rfl

/-- **C10, Tags chunks (c)**: from ANY state `pi` (for instance one that already holds the tags
    of an earlier Tags chunk and their records): a Tags chunk in frame 0 with tags `ts` followed by
    `k = uds.length ≤ ts.length` user-data chunks parsing to `uds` gives the tags `ts` with
    `userData := some uds[i]` on tag `i` for `i < k` and tag `i` of `ts` itself for `i ≥ k`;
    the context is `tag k`; no other field of `pi` changes. -/
theorem records_after_second_tags_chunk (inflate : Inflate) (m : Profile) (fmt : PixelFormat)
    (pi : ParseInfo) (c : Chunk) (ts : List Tag) (hty : c.ty = .tags)
    (hp : runChunk parseTagsChunk c.data = .ok ts) (cs : List Chunk) (uds : List UserData)
    (hcs : All₂ IsRecord cs uds) (hk : uds.length ≤ ts.length) :
    ∃ arr : Array Tag,
      processChunks inflate m fmt 0 pi (c :: cs) =
        .ok { pi with tags := some arr, ctx := some (.tag uds.length) } ∧
      arr.size = ts.length ∧
      ∀ i (hi : i < ts.length), arr[i]? = some
        (if h : i < uds.length then { ts[i] with userData := some uds[i] } else ts[i]) := by
  obtain ⟨arr, hrun, hsz, _, h2⟩ := processChunks_records_tag inflate m fmt 0 pi cs uds hcs
    ts.toArray 0 (by simpa using hk)
  refine ⟨arr, ?_, by simpa using hsz, fun i hi => ?_⟩
  · simp only [processChunks]
    rw [(tags_chunk_replaces inflate m fmt pi pi c ts hty hp
      ⟨rfl, rfl, rfl, rfl, rfl, rfl, rfl, rfl⟩).1]
    simpa using hrun
  · have := h2 i
    by_cases h : i < uds.length <;> simpa [h, hi, setRec] using this

/-- **C10, Tags chunks (c)**: the result of a frame-0 Tags chunk followed by any chunks does
    not depend on the old tags and context -/
theorem records_after_second_tags_chunk_indep (inflate : Inflate) (m : Profile)
    (fmt : PixelFormat) (pi1 pi2 : ParseInfo) (c : Chunk) (hty : c.ty = .tags)
    (cs : List Chunk) (hag : AgreeExceptTagsCtx pi1 pi2) :
    processChunks inflate m fmt 0 pi1 (c :: cs) = processChunks inflate m fmt 0 pi2 (c :: cs) := by
  simp only [processChunks]
  rw [tags_chunk_replaces_any inflate m fmt pi1 pi2 c hty hag]

def exInflate : Inflate := fun _ => .err .invalid
/-- a tag `fromFrame..toFrame`, forward, with an empty name -/
def exTagBytes (f t : UInt8) : Bytes := [f, 0, t, 0, 0, 0, 0] ++ zeros 6 ++ [0, 0, 0, 0] ++ [0, 0]
def exTag (f t : UInt16) : Tag := ⟨[], f, t, 0, 0, none⟩
def exTags : Chunk := ⟨.tags, [2, 0] ++ zeros 8 ++ exTagBytes 0 1 ++ exTagBytes 2 3⟩
/-- a Tags chunk announcing two tags but holding one -/
def exTagsBad : Chunk := ⟨.tags, [2, 0] ++ zeros 8 ++ exTagBytes 0 1⟩
def exRec1 : Chunk := ⟨.userData, [2, 0, 0, 0, 1, 2, 3, 4]⟩
def exUd1 : UserData := ⟨none, some ⟨1, 2, 3, 4⟩⟩
def exRec2 : Chunk := ⟨.userData, [1, 0, 0, 0, 1, 0, 0x61]⟩
def exUd2 : UserData := ⟨some [0x61], none⟩
def exPi : ParseInfo :=
  { ParseInfo.new 2 100 with tags := some #[{ exTag 7 8 with userData := some exUd2 }],
                             ctx := some (.tag 1) }

theorem exTags_parses : runChunk parseTagsChunk exTags.data = .ok [exTag 0 1, exTag 2 3] := by
  decide
theorem exTagsBad_fails : runChunk parseTagsChunk exTagsBad.data = .err (.io .unexpectedEof) := by
  decide
theorem exRec1_isRecord : IsRecord exRec1 exUd1 := ⟨rfl, by decide⟩
theorem exRec2_isRecord : IsRecord exRec2 exUd2 := ⟨rfl, by decide⟩

/-- (a) applies: `exPi` and the initial state differ in `tags` and `ctx` only -/
example : processChunk exInflate .release .rgba 0 exPi exTags =
    processChunk exInflate .release .rgba 0 (ParseInfo.new 2 100) exTags :=
  (tags_chunk_replaces _ _ _ exPi (ParseInfo.new 2 100) exTags _ rfl exTags_parses
    ⟨rfl, rfl, rfl, rfl, rfl, rfl, rfl, rfl⟩).2

/-- (b) applies, parsing case and failing case -/
example : processChunk exInflate .release .rgba 1 exPi exTags = .ok exPi :=
  (tags_chunk_later_frame_ignored _ _ _ 1 (by decide) exPi exTags rfl).1 _ exTags_parses
example : processChunk exInflate .release .rgba 1 exPi exTagsBad = .err (.io .unexpectedEof) :=
  ((tags_chunk_later_frame_ignored _ _ _ 1 (by decide) exPi exTagsBad rfl).2.2.1 _
    exTagsBad_fails).1

/-- (c) applies with `k = 1 < 2` and with `k = 2` -/
example : ∃ arr : Array Tag,
    processChunks exInflate .release .rgba 0 exPi [exTags, exRec1] =
      .ok { exPi with tags := some arr, ctx := some (.tag 1) } ∧ arr.size = 2 ∧
    arr[0]? = some { exTag 0 1 with userData := some exUd1 } ∧ arr[1]? = some (exTag 2 3) := by
  obtain ⟨arr, h1, h2, h3⟩ := records_after_second_tags_chunk exInflate .release .rgba exPi
    exTags _ rfl exTags_parses [exRec1] [exUd1] (.cons exRec1_isRecord .nil) (by decide)
  exact ⟨arr, h1, h2, h3 0 (by decide), h3 1 (by decide)⟩
example : ∃ arr : Array Tag,
    processChunks exInflate .release .rgba 0 exPi [exTags, exRec1, exRec2] =
      .ok { exPi with tags := some arr, ctx := some (.tag 2) } ∧ arr.size = 2 :=
  let ⟨arr, h1, h2, _⟩ := records_after_second_tags_chunk exInflate .release .rgba exPi
    exTags _ rfl exTags_parses [exRec1, exRec2] [exUd1, exUd2]
    (.cons exRec1_isRecord (.cons exRec2_isRecord .nil)) (by decide)
  ⟨arr, h1, h2⟩

end Ase.Proofs.C10
