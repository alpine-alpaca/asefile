import AseProofs.Props.C10
import AseProofs.Lemmas.ValidateTables
/-
  C10, carried from the final parser state to the loaded `Sprite`: validation copies layers,
  slices, tags and the sprite's own record, and `RawCel::validate` keeps each cel's record; so
  what `C10.Attached` says about `ParseInfo` holds of the sprite `parseFile` / `parse` return.
-/
namespace Ase.Proofs.C10
open Ase Ase.Spec Ase.Proofs Ase.Proofs.C05

/-- **C10 (whole file)**, what validation copies: layers, slices, the sprite's record and the
    tags are those of the final parser state, and every cel keeps its record -/
theorem validate_userData {h : Header} {fmt : PixelFormat} {pi : ParseInfo} {s : Sprite}
    (hv : validate h fmt pi = .ok s) :
    s.layers = pi.layers ∧ s.slices = pi.slices ∧ s.spriteUserData = pi.spriteUserData ∧
    s.tags = pi.tags.getD #[] ∧
    ∀ f l : Nat, ((s.cels[f]?).bind (FrameCels.get? l)).map (·.userData) =
      ((pi.cels[f]?).bind (FrameCels.get? l)).map (·.userData) := by
  refine ⟨WholeFile.validate_layers hv, WholeFile.validate_slices hv,
    WholeFile.validate_spriteUserData hv, WholeFile.validate_tags hv, fun f l => ?_⟩
  rcases More.validate_cel hv f l with ⟨h1, h2⟩ | ⟨c, c', h1, h2, _, hval⟩
  · rw [h1, h2]; rfl
  · rw [h1, h2]
    simp only [Option.map_some, (More.validateCel_keeps hval).2.1]

/-- the sprite-level form of `Attached` (no context; absent tags are `#[]`) -/
structure SpriteAttached (evs : List Ev) (s : Sprite) : Prop where
  nlayers : s.layers.size = evs.countP Ev.isLayer
  layers : ∀ k (h : k < s.layers.size), s.layers[k].userData = attached evs (.layer k)
  nslices : s.slices.size = evs.countP Ev.isSlice
  slices : ∀ k (h : k < s.slices.size), s.slices[k].userData = attached evs (.slice k)
  sprite : s.spriteUserData = attached evs .sprite
  cels : ∀ f l : Nat, ((s.cels[f]?).bind (FrameCels.get? l)).map (·.userData) =
    if Ev.cel f l ∈ evs then some (attached evs (.cel f l)) else none
  tags : match lastTags evs with
    | none => s.tags = #[]
    | some (j, n) => s.tags.size = n ∧
        ∀ k (h : k < s.tags.size), s.tags[k].userData = attachedSince evs j (.tag k)

theorem spriteAttached_of_validate {h : Header} {fmt : PixelFormat} {pi : ParseInfo} {s : Sprite}
    {evs : List Ev} (ha : Attached evs pi) (hv : validate h fmt pi = .ok s) :
    SpriteAttached evs s := by
  obtain ⟨hl, hsl, hsp, htg, hc⟩ := validate_userData hv
  refine ⟨hl ▸ ha.nlayers, hl ▸ ha.layers, hsl ▸ ha.nslices, hsl ▸ ha.slices, hsp ▸ ha.sprite,
    fun f l => (hc f l).trans (ha.cels f l), ?_⟩
  have hat := ha.tags
  split at hat <;> rename_i hlt <;> simp only [hlt]
  · rw [htg, hat]; rfl
  · obtain ⟨ts, h1, h2, h3⟩ := hat
    have hts : s.tags = ts := by rw [htg, h1]; rfl
    exact hts ▸ ⟨h2, h3⟩

/-- with a single tags event, tag `k` reports `attached evs (.tag k)` -/
theorem spriteAttached_tags {evs : List Ev} {s : Sprite} (h : SpriteAttached evs s)
    (hone : evs.countP isTags ≤ 1) {j n : Nat} (hlt : lastTags evs = some (j, n)) :
    s.tags.size = n ∧ ∀ k (hk : k < s.tags.size), s.tags[k].userData = attached evs (.tag k) := by
  have htg := h.tags
  rw [hlt] at htg
  exact ⟨htg.1, fun k hk => (htg.2 k hk).trans (attachedSince_lastTags_eq evs hone j n hlt k)⟩

/-- **C10 (whole file)**, for `parseFile` (`userData_spec_parse` carried to the sprite): whenever
    loading succeeds - from any source, with any inflater, in either build profile - there are
    the chunk lists `fs` of the file's frames (one per frame of the sprite) and events `evss` the
    chunks decode to, such that every entity of the loaded sprite reports its declarative
    attachment (`SpriteAttached`): layers, slices, the sprite, the cels that were read, and the
    tags of the last tags chunk of frame 0, tag `k` reporting the `k`-th record after it. -/
theorem userData_spec_parseFile {σ : Type} (S : Src σ) {inflate : Inflate} {m : Profile}
    {st st' : σ} {s : Sprite} (h : parseFile S inflate m st = .ok (s, st')) :
    ∃ fs evss, fs.length = s.numFrames.toNat ∧
      FramesRel (ChunkEv inflate m s.format) 0 fs evss ∧ SpriteAttached evss.flatten s := by
  obtain ⟨hd, s1, fmt, pi, _, _, _, hp, hv⟩ := parseFile_eq_ok h
  obtain ⟨fs, evss, hlen, hrel, hatt⟩ := userData_spec_parse S hp
  have hsa := spriteAttached_of_validate hatt hv
  obtain ⟨_, _, hnum, hfmt⟩ := WholeFile.validate_header hv
  rw [hnum, hfmt]
  exact ⟨fs, evss, hlen, hrel, hsa⟩

/-- **C10 (whole file)**, for `parse` (`AsepriteFile::read` on a byte string) -/
theorem userData_spec_parseBytes {inflate : Inflate} {m : Profile} {bs : Bytes} {s : Sprite}
    (h : parse inflate m bs = .ok s) :
    ∃ fs evss, fs.length = s.numFrames.toNat ∧
      FramesRel (ChunkEv inflate m s.format) 0 fs evss ∧ SpriteAttached evss.flatten s := by
  obtain ⟨rest, hp⟩ := parse_eq_ok h
  exact userData_spec_parseFile bytesSrc hp

/-- **C10 (whole file)**: "an entity that is the target of no record reports none", for the
    layers, slices, cels and the sprite itself of the loaded sprite; there is no clause for tags
    (`unattached_none_model` has one) -/
theorem unattached_none_sprite {evs : List Ev} {s : Sprite} (h : SpriteAttached evs s) :
    (∀ k (hk : k < s.layers.size),
      (∀ i u, evs[i]? = some (.userData u) → attachTarget evs i ≠ some (.layer k)) →
      s.layers[k].userData = none) ∧
    (∀ k (hk : k < s.slices.size),
      (∀ i u, evs[i]? = some (.userData u) → attachTarget evs i ≠ some (.slice k)) →
      s.slices[k].userData = none) ∧
    ((∀ i u, evs[i]? = some (.userData u) → attachTarget evs i ≠ some .sprite) →
      s.spriteUserData = none) ∧
    (∀ f l row c, s.cels[f]? = some row → FrameCels.get? l row = some c →
      (∀ i u, evs[i]? = some (.userData u) → attachTarget evs i ≠ some (.cel f l)) →
      c.userData = none) := by
  refine ⟨?_, ?_, ?_, ?_⟩
  · intro k hk hno
    rw [h.layers k hk]; exact unattached_none hno
  · intro k hk hno
    rw [h.slices k hk]; exact unattached_none hno
  · intro hno
    rw [h.sprite]; exact unattached_none hno
  · intro f l row c hrow hget hno
    rw [cel_reports (h.cels f l) hrow hget]; exact unattached_none hno

end Ase.Proofs.C10
