import Ase.Parse
import AseProofs.Lemmas.Assoc
/-
  C11  Palettes decode correctly and indexed files need a complete palette.
-/
namespace Ase.Proofs.C11
open Ase

/-- **C11, scaling**: 0 goes to 0 and 63 to 255, the scaling is strictly increasing on 0..63, and
    every byte from 64 up is refused (checked on all 256 byte values; the values themselves are
    `scale6_formula`) -/
theorem scale6_table :
    scale6 0 = .ok 0 ∧ scale6 63 = .ok 255 ∧
    ((List.range 63).all fun c =>
      match scale6 (UInt8.ofNat c), scale6 (UInt8.ofNat (c + 1)) with
      | .ok a, .ok b => a < b
      | _, _ => false) = true ∧
    ((List.range 256).all fun c => c < 64 || scale6 (UInt8.ofNat c) == .err .invalid) = true := by
  decide +kernel

/-- closed form of the scaling on its domain -/
theorem scale6_formula (c : UInt8) (h : c.toNat < 64) :
    scale6 c = .ok (UInt8.ofNat (c.toNat * 4 + c.toNat / 16)) := by
  rw [scale6, if_neg (Nat.not_le_of_lt h),
    Nat.mod_eq_of_lt (Nat.lt_of_lt_of_le (Nat.mul_lt_mul_of_pos_right h (by decide)) (by decide))]

/-- **C11, validation**: an indexed pixel buffer fails validation when there is no palette -/
theorem indexed_no_palette_fails (fmt : PixelFormat) (bg : Bool) (px : Array UInt8) :
    validatePixels none fmt bg (.indexed px) = .err .invalid := rfl

/-- **C11, validation**: a pixel index that is absent from the palette fails validation -/
theorem indexed_missing_index_fails (p : Palette) (fmt : PixelFormat) (bg : Bool) (px : Array UInt8)
    (i : UInt8) (hi : i ∈ px) (hmiss : p.color i.toNat = none) :
    validatePixels (some p) fmt bg (.indexed px) = .err .invalid := by
  have hfalse : validateIndexed p px = false :=
    Bool.eq_false_iff.mpr fun hall => by
      have hsome := Array.all_eq_true_iff_forall_mem.mp hall i hi
      rw [hmiss] at hsome
      cases hsome
  simp only [validatePixels, hfalse, Bool.not_false, if_true]

/-- **C11, validation**: validation of an indexed buffer succeeds only with a palette that has
    every index of the buffer (and an indexed pixel format) -/
theorem indexed_complete (pal : Option Palette) (fmt : PixelFormat) (bg : Bool) (px : Array UInt8)
    (out : Pixels) (h : validatePixels pal fmt bg (.indexed px) = .ok out) :
    ∃ p tci, pal = some p ∧ fmt = .indexed tci ∧ out = .indexed tci bg px ∧
      ∀ i ∈ px, (p.color i.toNat).isSome := by
  cases pal with
  | none => cases h
  | some p =>
      cases hv : validateIndexed p px with
      | false =>
          simp only [validatePixels, hv, Bool.not_false, if_true, reduceCtorEq] at h
      | true =>
          cases fmt with
          | indexed tci =>
              simp only [validatePixels, hv, Bool.not_true, Bool.false_eq_true, if_false,
                Res.ok.injEq] at h
              exact ⟨p, tci, rfl, rfl, h.symm, Array.all_eq_true_iff_forall_mem.mp hv⟩
          | _ =>
              simp only [validatePixels, hv, Bool.not_true, Bool.false_eq_true, if_false,
                reduceCtorEq] at h

/-- **C11, precedence**: a new-format palette chunk always replaces the current palette -/
theorem new_palette_replaces (inflate : Inflate) (m : Profile) (fmt : PixelFormat) (frame : Nat)
    (pi : ParseInfo) (data : Bytes) (p : Palette) (h : runChunk parsePaletteChunk data = .ok p) :
    processChunk inflate m fmt frame pi ⟨.palette, data⟩ = .ok { pi with palette := some p } := by
  simp only [processChunk, h, Res.pure_eq, Res.bind_ok]

/-- **C11, precedence**: one step from a state that has a palette: a legacy palette chunk (either
    kind) leaves the palette as it is and only sets the user-data context.  With
    `new_palette_replaces` and `old_palette_used_when_none` this is the precedence in either chunk
    order. -/
theorem old_palette_keeps_existing (inflate : Inflate) (m : Profile) (fmt : PixelFormat) (frame : Nat)
    (pi : ParseInfo) (data : Bytes) (p : Palette) (hp : pi.palette = some p) (ty : ChunkType)
    (hty : ty = .oldPalette04 ∨ ty = .oldPalette11) :
    processChunk inflate m fmt frame pi ⟨ty, data⟩ = .ok { pi with ctx := some .oldPalette } := by
  rcases hty with rfl | rfl <;>
    simp only [processChunk, hp, Option.isNone_some, Bool.false_eq_true, if_false, Res.pure_eq]

/-- **C11, precedence**: a legacy palette chunk is used when no palette has been seen yet (stated
    for the 0x0004 kind; the 0x0011 branch of `processChunk` is the same with
    `parseOldPaletteChunk m true`) -/
theorem old_palette_used_when_none (inflate : Inflate) (m : Profile) (fmt : PixelFormat) (frame : Nat)
    (pi : ParseInfo) (data : Bytes) (p : Palette) (hp : pi.palette = none)
    (h : runChunk (parseOldPaletteChunk m false) data = .ok p) :
    processChunk inflate m fmt frame pi ⟨.oldPalette04, data⟩ =
      .ok { pi with ctx := some .oldPalette, palette := some p } := by
  simp only [processChunk, hp, Option.isNone_none, if_true, h, Res.pure_eq, Res.bind_ok]

/-- **C11, legacy entries**: an invariant of the entry loop `parseOldEntries`, on any bytes: if
    every entry of the palette it starts from has alpha 255 and no name, so has every entry of
    the palette it returns (the loop inserts only such entries) -/
theorem old_entries_opaque (scaled : Bool) : ∀ (n id : Nat) (p p' : Palette) (bs rest : Bytes),
    parseOldEntries scaled n id p bs = .ok (p', rest) →
    (∀ k e, p.color k = some e → e.rgba.a = 255 ∧ e.name = none) →
    (∀ k e, p'.color k = some e → e.rgba.a = 255 ∧ e.name = none) := by
  intro n id p p' bs rest h hp
  induction n generalizing id p bs with
  | zero =>
      cases h
      exact hp
  | succ n ih =>
      obtain ⟨r, _, _, h⟩ := RdS.bind_eq_ok h
      obtain ⟨g, _, _, h⟩ := RdS.bind_eq_ok h
      obtain ⟨b, _, _, h⟩ := RdS.bind_eq_ok h
      refine ih _ _ _ h fun k e hk => ?_
      rw [Proofs.palette_color_insert] at hk
      split at hk
      · cases hk; exact ⟨rfl, rfl⟩
      · exact hp k e hk

end Ase.Proofs.C11
