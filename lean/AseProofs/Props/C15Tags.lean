import AseProofs.Props.C15
import AseProofs.Props.C10Tags
/-
  C15, animation direction, chunk- and file-level forms of `tagDirection_supported`: a Tags
  chunk holding a tag with a direction byte other than 0/1/2 does not decode - whatever the
  tag's frame range (one-frame tags and from > to included), wherever the tag is in the chunk,
  and in whichever frame the chunk is (Tags chunks of later frames are decoded, then ignored).
-/
namespace Ase.Proofs.C15
open Ase Ase.Proofs.C10 Ase.Proofs.C05

/-- **C15**, chunk level: every tag of a Tags chunk that decodes has direction 0, 1 or 2 (the
    name is the contrapositive: a chunk holding a direction byte above 2 does not decode) -/
theorem tagsChunk_bad_direction_fails (data : Bytes) (ts : List Tag)
    (h : runChunk parseTagsChunk data = .ok ts) : ∀ t ∈ ts, t.direction ≤ 2 :=
  fun t ht => (rok_runChunk parseTagsChunk_tags data ts h t ht).1

/-- the same with the tag's position: tag `k` of the chunk, whatever its frame range -/
theorem tagsChunk_direction_at (data : Bytes) (ts : List Tag) (k : Nat)
    (h : runChunk parseTagsChunk data = .ok ts) (hk : k < ts.length) : ts[k].direction ≤ 2 :=
  tagsChunk_bad_direction_fails data ts h ts[k] (List.getElem_mem hk)

/-- **C15**, one `processChunk` call: in ANY frame it succeeds on a Tags chunk only if the chunk
    decodes, and then all its tags have direction ≤ 2 (in frame 0 they become the sprite's tags;
    in a later frame the state is left unchanged) -/
theorem processChunk_tags_bad_direction (inflate : Inflate) (m : Profile) (fmt : PixelFormat)
    (frame : Nat) (pi pi' : ParseInfo) (c : Chunk) (hty : c.ty = .tags)
    (h : processChunk inflate m fmt frame pi c = .ok pi') :
    ∃ ts, runChunk parseTagsChunk c.data = .ok ts ∧ (∀ t ∈ ts, t.direction ≤ 2) ∧
      pi' = (if frame = 0 then { pi with tags := some ts.toArray, ctx := some (.tag 0) }
             else pi) := by
  rw [processChunk_tags hty] at h
  obtain ⟨ts, hr, h⟩ := Res.map_eq_ok h
  exact ⟨ts, hr, tagsChunk_bad_direction_fails c.data ts hr, h.symm⟩

/-- **C15**: a Tags chunk whose decoded tags, if there were any, would include a direction above
    2 - by `tagsChunk_bad_direction_fails` a chunk that does not decode - makes `processChunk`
    fail in every frame -/
theorem processChunk_tags_bad_direction_fails (inflate : Inflate) (m : Profile)
    (fmt : PixelFormat) (frame : Nat) (pi : ParseInfo) (c : Chunk) (hty : c.ty = .tags)
    (hbad : ∀ ts, runChunk parseTagsChunk c.data = .ok ts → ∃ t ∈ ts, 2 < t.direction) :
    ∀ pi', processChunk inflate m fmt frame pi c ≠ .ok pi' := by
  intro pi' h
  obtain ⟨ts, h1, h2, _⟩ := processChunk_tags_bad_direction inflate m fmt frame pi pi' c hty h
  obtain ⟨t, ht, hd⟩ := hbad ts h1
  exact absurd (h2 t ht) (by omega)

/-- the bytes of a tag `f..t` with direction byte `d` and an empty name -/
def dirTagBytes (f t d : UInt8) : Bytes :=
  [f, 0, t, 0, d, 0, 0] ++ zeros 6 ++ [0, 0, 0, 0] ++ [0, 0]

theorem dir3_refused :
    runChunk parseTagsChunk ([1, 0] ++ zeros 8 ++ dirTagBytes 5 5 3) = .err .invalid := by
  decide

/-- a one-frame tag (5..5) with direction byte 3: the chunk is refused -/
example : runChunk parseTagsChunk ([1, 0] ++ zeros 8 ++ dirTagBytes 5 5 3) = .err .invalid :=
  dir3_refused

/-- the same tag with direction 2 (ping-pong) decodes -/
example : runChunk parseTagsChunk ([1, 0] ++ zeros 8 ++ dirTagBytes 5 5 2) =
    .ok [⟨[], 5, 5, 0, 2, none⟩] := by decide

/-- second position, from > to: still refused -/
example : runChunk parseTagsChunk
    ([2, 0] ++ zeros 8 ++ dirTagBytes 0 1 0 ++ dirTagBytes 4 2 3) = .err .invalid := by decide

/-- … and refused by `processChunk` in frame 0 and in a later frame alike -/
example (frame : Nat) (pi : ParseInfo) :
    processChunk exInflate .release .rgba frame pi
      ⟨.tags, [1, 0] ++ zeros 8 ++ dirTagBytes 5 5 3⟩ = .err .invalid := by
  rw [processChunk_tags rfl, dir3_refused]
  rfl

end Ase.Proofs.C15
