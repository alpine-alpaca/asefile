import AseProofs.Props.C03
/-
  C17  Blend results obey mode-independent alpha and identity laws, for every floating-point
  instance, build profile, mode and pixel.  Three facts carry the proofs: `normal` is the total
  function `Spec.BlendRef.normal` (`C03.normal_eq`); `blend` is `normal`, or the baseline result
  merged twice with it (`blend_unfold`); every baseline function is `normal` applied to a source
  with the original alpha (`baseline_ok`).  The letters follow the property's sentence: (a) alpha,
  (b) a source of total alpha 0, (c) a transparent backdrop, (d) full opacity, (e) totality.
-/
namespace Ase.Proofs.C17
open Ase Ase.Blend Ase.Proofs
open Ase.Spec (BlendRef.normal)

/-- **C17 (e)**, Normal mode: `normal` never fails, in either build profile: its alpha is a
    non-zero byte when it divides by it and every channel stays in 0..255, so neither the division
    nor the range `debug_assert!`s of `from_rgba_i32` can fire. -/
theorem normal_total (m : Profile) (b s : RGBA) (o : UInt8) : ∃ r, normal m b s o = .ok r :=
  ⟨_, C03.normal_eq m b s o⟩

theorem normal_alpha_congr (b s s' : RGBA) (o : Int) (h : s'.a = s.a) :
    (BlendRef.normal b s' o).a = (BlendRef.normal b s o).a := by
  unfold BlendRef.normal
  rw [h]
  split
  · rfl
  · split <;> rfl

theorem normal_backdrop_transparent (b s : RGBA) (o : UInt8) (hb : b.a = 0) :
    BlendRef.normal b s (ch o) = ⟨s.r, s.g, s.b, mulUn8 (ch s.a) (ch o)⟩ := by
  unfold BlendRef.normal
  rw [if_pos (by rw [hb]; rfl)]
  rfl

theorem normal_srcTotal_zero (b s : RGBA) (o : Int) (hb : b.a ≠ 0)
    (h0 : mulUn8I (ch s.a) o = 0) : BlendRef.normal b s o = b := by
  have hb' : ¬ ch b.a = 0 := mt (ch_eq_zero_iff _).mp hb
  unfold BlendRef.normal
  simp only [C03.geti_eq, C03.MUL_eq, C03.u8_eq, Spec.BlendRef.rgba, hb', h0, if_false,
    mulUn8I_zero_right, Int.mul_zero, Int.zero_add, Int.sub_zero, Int.zero_tdiv, Int.add_zero,
    asU8_ch]
  split <;> rfl

theorem blend_unfold {F : Type} (ops : FOps F) (m : Profile) (mode : Nat) (b s : RGBA)
    (o : UInt8) :
    blend ops m mode b s o =
      if mode = 0 ∨ b.a = 0 then .ok (BlendRef.normal b s (ch o))
      else (baseline ops m mode b s o).map fun bl =>
        merge (merge (BlendRef.normal b s (ch o)) bl b.a) bl
          (mulUn8 (ch b.a) (ch (mulUn8 (ch s.a) (ch o)))) := by
  unfold blend
  by_cases hm : mode = 0
  · rw [if_pos (beq_iff_eq.mpr hm), if_pos (.inl hm), C03.normal_eq]
  · rw [if_neg (mt beq_iff_eq.mp hm), C03.blender_unfold]
    simp only [hm, false_or]

theorem blendChannel_ok {m : Profile} {f : Int → Int → Res UInt8} {b s : RGBA} {o : UInt8}
    {r : RGBA} (h : blendChannel m f b s o = .ok r) :
    ∃ s' : RGBA, s'.a = s.a ∧ r = BlendRef.normal b s' (ch o) := by
  unfold blendChannel at h
  obtain ⟨r1, _, h⟩ := Res.bind_eq_ok h
  obtain ⟨r2, _, h⟩ := Res.bind_eq_ok h
  obtain ⟨r3, _, h⟩ := Res.bind_eq_ok h
  rw [C03.normal_eq] at h
  exact ⟨⟨r1, r2, r3, s.a⟩, rfl, (Res.ok.inj h).symm⟩

theorem fromRgbaI32_normal_ok {m : Profile} {r' g' b' : Int} {b s : RGBA} {o : UInt8} {r : RGBA}
    (h : (fromRgbaI32 m r' g' b' (ch s.a) >>= fun s' => normal m b s' o) = .ok r) :
    ∃ s' : RGBA, s'.a = s.a ∧ r = BlendRef.normal b s' (ch o) := by
  obtain ⟨s', hs', h⟩ := Res.bind_eq_ok h
  rw [C03.normal_eq] at h
  refine ⟨s', ?_, (Res.ok.inj h).symm⟩
  rw [fromRgbaI32_eq_ok hs']
  exact asU8_ch _

theorem baseline_ok {F : Type} {ops : FOps F} {m : Profile} {mode : Nat} {b s : RGBA}
    {o : UInt8} {r : RGBA} (h : baseline ops m mode b s o = .ok r) :
    ∃ s' : RGBA, s'.a = s.a ∧ r = BlendRef.normal b s' (ch o) := by
  unfold baseline at h
  split at h
  -- soft light, the four HSL modes, addition and subtract pack a colour with `from_rgba_i32`
  -- (alternative `h_k` is mode `k` only because the match of `baseline` starts at mode 1)
  case h_9 | h_12 | h_13 | h_14 | h_15 | h_16 | h_17 => exact fromRgbaI32_normal_ok h
  all_goals exact blendChannel_ok h

theorem baseline_alpha {F : Type} (ops : FOps F) (m : Profile) (mode : Nat) (b s : RGBA)
    (o : UInt8) (r : RGBA) (h : baseline ops m mode b s o = .ok r) :
    r.a = (BlendRef.normal b s (ch o)).a := by
  obtain ⟨s', hs', rfl⟩ := baseline_ok h
  exact normal_alpha_congr b s s' _ hs'

theorem blend_ok {F : Type} {ops : FOps F} {m : Profile} {mode : Nat} {b s : RGBA} {o : UInt8}
    {r : RGBA} (h : blend ops m mode b s o = .ok r) :
    r = BlendRef.normal b s (ch o) ∨
      b.a ≠ 0 ∧ ∃ bl op1 op2, baseline ops m mode b s o = .ok bl ∧
        r = merge (merge (BlendRef.normal b s (ch o)) bl op1) bl op2 := by
  rw [blend_unfold] at h
  split at h
  next => exact .inl (Res.ok.inj h).symm
  next hc =>
    obtain ⟨bl, hbl, rfl⟩ := Res.map_eq_ok h
    exact .inr ⟨fun hb => hc (.inr hb), bl, _, _, hbl, rfl⟩

theorem merge_alpha_same (x y : RGBA) (op : UInt8) (h : x.a = y.a) : (merge x y op).a = x.a := by
  unfold merge
  simp only [← h, blend8_same]
  split
  next hx => exact (eq_of_beq hx).symm
  next => rfl

/-- **C17 (a)**: for every mode the result's alpha equals the Normal-mode result's alpha. -/
theorem alpha_eq_normal {F : Type} (ops : FOps F) (m : Profile) (mode : Nat) (b s : RGBA)
    (o : UInt8) (r rn : RGBA) (h : blend ops m mode b s o = .ok r)
    (hn : normal m b s o = .ok rn) : r.a = rn.a := by
  obtain rfl : BlendRef.normal b s (ch o) = rn :=
    Res.ok.inj ((C03.normal_eq m b s o).symm.trans hn)
  obtain h' | ⟨_, bl, op1, op2, hbl, h'⟩ := blend_ok h
  · rw [h']
  · have ha := (baseline_alpha ops m mode b s o bl hbl).symm
    have h1 := merge_alpha_same _ bl op1 ha
    rw [h', merge_alpha_same _ bl op2 (h1.trans ha), h1]

theorem merge_self (x : RGBA) (op : UInt8) (hx : x.a ≠ 0) : merge x x op = x := by
  unfold merge
  simp only [blend8_same, beq_eq_false_iff_ne.mpr hx, Bool.false_eq_true, if_false]

/-- C17 (b) in its general form: a source whose total alpha `mul_un8(src_a, opacity)` is 0 (a
    transparent source, a zero opacity, or a small product of the two) leaves a visible backdrop
    pixel unchanged, in every mode -/
theorem blend_id_of_srcTotal_zero {F : Type} (ops : FOps F) (m : Profile) (mode : Nat)
    (b s : RGBA) (o : UInt8) (hb : b.a ≠ 0) (h0 : mulUn8I (ch s.a) (ch o) = 0) (r : RGBA)
    (h : blend ops m mode b s o = .ok r) : r = b := by
  have hnorm : ∀ s' : RGBA, s'.a = s.a → BlendRef.normal b s' (ch o) = b :=
    fun s' hs' => normal_srcTotal_zero b s' _ hb (by rw [hs', h0])
  obtain h' | ⟨_, bl, op1, op2, hbl, h'⟩ := blend_ok h
  · rw [h', hnorm s rfl]
  · obtain ⟨s', hs', hbl'⟩ := baseline_ok hbl
    rw [h', hbl', hnorm s rfl, hnorm s' hs', merge_self b _ hb, merge_self b _ hb]

/-- **C17 (b1)**: a fully transparent source pixel leaves a visible backdrop pixel unchanged,
    in every mode. -/
theorem transparent_src_id {F : Type} (ops : FOps F) (m : Profile) (mode : Nat) (b s : RGBA)
    (o : UInt8) (hb : b.a ≠ 0) (hs : s.a = 0) (r : RGBA)
    (h : blend ops m mode b s o = .ok r) : r = b :=
  blend_id_of_srcTotal_zero ops m mode b s o hb (by rw [hs]; exact mulUn8I_zero_left _) r h

/-- **C17 (b2)**: a zero opacity product leaves a visible backdrop pixel unchanged, in every
    mode. -/
theorem zero_opacity_id {F : Type} (ops : FOps F) (m : Profile) (mode : Nat) (b s : RGBA)
    (hb : b.a ≠ 0) (r : RGBA) (h : blend ops m mode b s 0 = .ok r) : r = b :=
  blend_id_of_srcTotal_zero ops m mode b s 0 hb (mulUn8I_zero_right _) r h

/-- **C17 (c)**: over a fully transparent backdrop every mode gives the source colour with
    alpha scaled by the opacity (and never fails, in either build profile). -/
theorem over_transparent {F : Type} (ops : FOps F) (m : Profile) (mode : Nat) (b s : RGBA)
    (o : UInt8) (hb : b.a = 0) :
    blend ops m mode b s o = .ok ⟨s.r, s.g, s.b, mulUn8 (ch s.a) (ch o)⟩ := by
  rw [blend_unfold, if_pos (.inr hb), normal_backdrop_transparent b s o hb]

/-- **C17 (d)**: Normal mode at full opacity with an opaque source returns the source. -/
theorem normal_full_opaque {F : Type} (ops : FOps F) (m : Profile) (b s : RGBA)
    (hs : s.a = 255) : blend ops m 0 b s 255 = .ok s := by
  have hc : ∀ x y : Int, x + Int.tdiv ((y - x) * 255) 255 = y := fun x y => by
    rw [Int.mul_tdiv_cancel _ (by decide)]
    omega
  have hra : (255 : Int) + ch b.a - mulUn8I (ch b.a) 255 = 255 := by
    rw [mulUn8I_255 _ (ch_nonneg _) (ch_le _)]
    omega
  obtain ⟨sr, sg, sb, sa⟩ := s
  subst hs
  rw [blend_unfold, if_pos (.inl rfl)]
  unfold BlendRef.normal
  simp only [C03.geti_eq, C03.MUL_eq, C03.u8_eq, Spec.BlendRef.rgba,
    show ch (255 : UInt8) = 255 from rfl, show mulUn8I 255 255 = 255 from rfl, hra, hc, asU8_ch,
    Int.reduceEq, if_false]
  split <;> rfl

theorem blend_total_of_baseline {F : Type} (ops : FOps F) (m : Profile) (mode : Nat)
    (b s : RGBA) (o : UInt8) (h : ∃ bl, baseline ops m mode b s o = .ok bl) :
    ∃ r, blend ops m mode b s o = .ok r := by
  obtain ⟨bl, hbl⟩ := h
  rw [blend_unfold, hbl]
  split <;> exact ⟨_, rfl⟩

/-- **C17 (e)**, integer modes: compositing never fails — no division by zero, no overflow
    check and no range `debug_assert!` can fire — for the 14 integer modes, every backdrop,
    source and opacity, in either build profile. -/
theorem int_modes_total {F : Type} (ops : FOps F) (m : Profile) (mode : Nat) (hm : intMode mode = true)
    (b s : RGBA) (o : UInt8) : ∃ r, blend ops m mode b s o = .ok r :=
  ⟨_, C03.blend_eq_ref_int ops m mode hm b s o⟩

theorem blend_total_of_noAsserts {F : Type} (ops : FOps F) {m : Profile}
    (hm : m.debugAsserts = false) (mode : Nat) (b s : RGBA) (o : UInt8) :
    ∃ r, blend ops m mode b s o = .ok r := by
  by_cases hf : mode = 9 ∨ (12 ≤ mode ∧ mode ≤ 15)
  · have tail : ∀ r g b' : Int, ∃ x, (fromRgbaI32 m r g b' (ch s.a) >>=
        fun s' => normal m b s' o) = .ok x :=
      fun r g b' => ⟨_, by rw [fromRgbaI32_noAsserts hm, Res.bind_ok, C03.normal_eq]⟩
    apply blend_total_of_baseline
    have : mode = 9 ∨ mode = 12 ∨ mode = 13 ∨ mode = 14 ∨ mode = 15 := by omega
    rcases this with rfl | rfl | rfl | rfl | rfl <;> exact tail _ _ _
  · exact ⟨_, C03.blend_eq_ref_of ops _ mode b s o fun h => absurd h hf⟩

end Ase.Proofs.C17
