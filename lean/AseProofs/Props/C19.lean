import AseProofs.Lemmas.RasterSpec
import AseProofs.Props.C08
/-
  C19  All access paths to a cel agree; single-layer frames equal the cel image.

  In the model the three routes (`AsepriteFile::cel(f, l)`, `Frame::layer(l)`, `Layer::frame(f)`)
  are one function of the pair (frame, layer) by construction, `Sprite.cel` / `Sprite.celImage`;
  that the three Rust constructors build the same `CelId` is what the correspondence check
  compares (observation lines celA / celB / celC on sprites with frames ≠ layers).
  Proved here: the relations between frame images, cel images and tilemap images.
-/
namespace Ase.Proofs.C19
open Ase Ase.Proofs

variable {F : Type} (ops : FOps F) (m : Profile)

/-- **C19** (single layer): a frame in which exactly one layer has a cel, and that layer is
    visible, renders exactly that cel's image (same pixels, same failure behaviour) -/
theorem single_layer_frame_eq_cel (s : Sprite) (f l : Nat) (c : RawCel Pixels)
    (hrow : s.cels[f]? = some [(l, c)]) (hl : l < s.numLayers)
    (hvis : s.isVisible l = .ok true) :
    s.frameImage ops m f = s.celImage ops m f l := by
  have hl' : ¬ l ≥ s.numLayers := by omega
  simp only [Sprite.frameImage, Sprite.celImage, Sprite.cel, hrow, Sprite.frameImageLoop, hl',
    if_false, hvis, FrameCels.get?, List.find?, beq_self_eq_true, Option.map_some]
  cases s.writeCel ops m s.canvas c <;> rfl

/-- a hidden layer (directly or through an ancestor) contributes nothing to the frame image -/
theorem hidden_layer_skipped (s : Sprite) (l : Nat) (c : RawCel Pixels) (rest : FrameCels Pixels)
    (img : Image) (hl : l < s.numLayers) (hvis : s.isVisible l = .ok false) :
    s.frameImageLoop ops m ((l, c) :: rest) img = s.frameImageLoop ops m rest img := by
  have hl' : ¬ l ≥ s.numLayers := by omega
  simp only [Sprite.frameImageLoop, hl', if_false, hvis]

/-- a frame without cels renders as the canvas (point-wise: `C02.uncovered_transparent`) -/
theorem empty_frame (s : Sprite) (f : Nat) (hrow : s.cels[f]? = some []) :
    s.frameImage ops m f = .ok s.canvas := by
  simp only [Sprite.frameImage, hrow, Sprite.frameImageLoop]

/-- **C19** (tilemap view): the view stores the (frame, layer) it was built from, and its cel is
    the cel of that frame and layer and a tilemap cel.  `Tilemap::image` is defined in the Rust
    as that cel's image and has no counterpart in the model. -/
theorem tilemap_view_cel (s : Sprite) (l f : Nat) (v : TilemapView)
    (h : s.tilemap l f = .ok (some v)) :
    v.frame = f ∧ v.layer = l ∧ s.cel f l = .ok (some v.cel) ∧ v.cel.content = .tilemap v.data :=
  let ⟨_, _, _, _, _, hc, hcont, hf, hl, _⟩ := C08.tilemap_eq_ok_some s l f v h
  ⟨hf, hl, hc, hcont⟩

/-- both produced images have the canvas dimensions (frame image and cel image) -/
theorem images_have_canvas_dims (s : Sprite) (f l : Nat) (a b : Image)
    (ha : s.frameImage ops m f = .ok a) (hb : s.celImage ops m f l = .ok b) :
    a.w = s.width.toNat ∧ a.h = s.height.toNat ∧ b.w = s.width.toNat ∧ b.h = s.height.toNat :=
  ⟨(frameImage_dims ops m s f a ha).1, (frameImage_dims ops m s f a ha).2.1,
   (celImage_dims ops m s f l b hb).1, (celImage_dims ops m s f l b hb).2.1⟩

end Ase.Proofs.C19
