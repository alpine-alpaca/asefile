import AseProofs.Props.C17
import AseProofs.Lemmas.ExactFloat
/-
  C17 (e), floating-point modes, EXACT arithmetic: "no channel computation overflows or leaves
  0..255: no overflow check or debug assertion fires", for the five floating-point blend modes
  (9 soft light, 12 hue, 13 saturation, 14 color, 15 luminosity) at `exactOps sqrt : FOps ℚ`, for
  every `sqrt` with `SqrtOk`.  Totality rests on the soft-light formula staying in `[0,1]` and on
  the bug-compatible `clip_color` (which reuses `lum`/`min`/`max` computed before the first
  clipping step) taking ANY colour of luminosity in `[0,1]` into `[0,1]³`; the range of
  `set_saturation` under `static_sort3_orig` (whose MIN/MID/MAX indices may coincide) is
  recorded after the totality theorems.  The gap to IEEE-754 binary64 is NOT covered (scope:
  `Lemmas/ExactFloat.lean`).
-/
namespace Ase.Proofs.C17
open Ase Ase.Blend Ase.Proofs

variable (q : ℚ → ℚ)

def Unit3 (c : ℚ × ℚ × ℚ) : Prop :=
  (0 ≤ c.1 ∧ c.1 ≤ 1) ∧ (0 ≤ c.2.1 ∧ c.2.1 ≤ 1) ∧ (0 ≤ c.2.2 ∧ c.2.2 ≤ 1)

theorem luminosity_exact (c : ℚ × ℚ × ℚ) : luminosity (exactOps q) c = lumQ c.1 c.2.1 c.2.2 := by
  simp only [luminosity, lumQ, exactOps_add, exactOps_mul, exactOps_c0_3, exactOps_c0_59,
    exactOps_c0_11]

theorem saturation_exact (c : ℚ × ℚ × ℚ) :
    saturation (exactOps q) c = max c.1 (max c.2.1 c.2.2) - min c.1 (min c.2.1 c.2.2) := by
  simp only [saturation, exactOps_max, exactOps_min, exactOps_sub]

theorem asRgbF_exact (c : RGBA) :
    asRgbF (exactOps q) c =
      (((ch c.r : Int) : ℚ) / 255, ((ch c.g : Int) : ℚ) / 255, ((ch c.b : Int) : ℚ) / 255) := by
  simp only [asRgbF, exactOps_ofInt, exactOps_div, Int.cast_ofNat]

theorem clipColor_exact (c : ℚ × ℚ × ℚ) :
    clipColor (exactOps q) c =
      (clip1 (lumQ c.1 c.2.1 c.2.2) (min c.1 (min c.2.1 c.2.2)) (max c.1 (max c.2.1 c.2.2)) c.1,
       clip1 (lumQ c.1 c.2.1 c.2.2) (min c.1 (min c.2.1 c.2.2)) (max c.1 (max c.2.1 c.2.2)) c.2.1,
       clip1 (lumQ c.1 c.2.1 c.2.2) (min c.1 (min c.2.1 c.2.2)) (max c.1 (max c.2.1 c.2.2))
         c.2.2) := by
  simp only [clipColor, luminosity_exact, clip1, clipLo, clipHi, exactOps_add, exactOps_sub,
    exactOps_mul, exactOps_div, exactOps_min, exactOps_max, exactOps_lt, exactOps_ofInt,
    decide_eq_true_eq, Int.cast_zero, Int.cast_one]
  split_ifs <;> rfl

theorem softLightCh_exact (b s : Int) :
    softLightCh (exactOps q) b s =
      (exactToU32 (softLightQ q ((b : ℚ) / 255) ((s : ℚ) / 255) * 255 + 1 / 2) : Int) := by
  simp only [softLightCh, softLightQ, softLightD, exactOps_add, exactOps_sub, exactOps_mul,
    exactOps_div, exactOps_le, exactOps_ofInt, exactOps_sqrt, exactOps_toU32, exactOps_c0_25,
    exactOps_c0_5, decide_eq_true_eq, Int.cast_ofNat, Int.cast_one]

theorem asRgbF_range (c : RGBA) : Unit3 (asRgbF (exactOps q) c) := by
  rw [asRgbF_exact]
  exact ⟨byte_unit _, byte_unit _, byte_unit _⟩

theorem luminosity_range (c : ℚ × ℚ × ℚ) (h : Unit3 c) :
    0 ≤ luminosity (exactOps q) c ∧ luminosity (exactOps q) c ≤ 1 := by
  rw [luminosity_exact]
  exact lumQ_mem h.1 h.2.1 h.2.2

theorem saturation_range (c : ℚ × ℚ × ℚ) (h : Unit3 c) :
    0 ≤ saturation (exactOps q) c ∧ saturation (exactOps q) c ≤ 1 := by
  rw [saturation_exact]
  exact satQ_range h.1 h.2.1 h.2.2

/-- the bug-compatible `clip_color` still maps every colour whose luminosity is in `[0,1]` into
    the unit cube, with no hypothesis on the channels: the stale `max` only makes the second
    scaling factor smaller than necessary -/
theorem clipColor_range (c : ℚ × ℚ × ℚ)
    (hl : 0 ≤ luminosity (exactOps q) c ∧ luminosity (exactOps q) c ≤ 1) :
    Unit3 (clipColor (exactOps q) c) := by
  rw [luminosity_exact] at hl
  rw [clipColor_exact]
  obtain ⟨r, g, b⟩ := c
  have hb := (lumQ_between r g b).2
  have hmin := min3_le r g b
  have hmax := le_max3 r g b
  exact ⟨clip1_range hl.1 hl.2 hb hmin.1 hmax.1, clip1_range hl.1 hl.2 hb hmin.2.1 hmax.2.1,
    clip1_range hl.1 hl.2 hb hmin.2.2 hmax.2.2⟩

theorem setLuminosity_exact (c : ℚ × ℚ × ℚ) (lum : ℚ) :
    setLuminosity (exactOps q) c lum =
      clipColor (exactOps q)
        (c.1 + (lum - lumQ c.1 c.2.1 c.2.2), c.2.1 + (lum - lumQ c.1 c.2.1 c.2.2),
         c.2.2 + (lum - lumQ c.1 c.2.1 c.2.2)) := by
  simp only [setLuminosity, luminosity_exact, exactOps_sub, exactOps_add]

theorem setLuminosity_range (c : ℚ × ℚ × ℚ) (lum : ℚ) (h : 0 ≤ lum ∧ lum ≤ 1) :
    Unit3 (setLuminosity (exactOps q) c lum) := by
  rw [setLuminosity_exact]
  apply clipColor_range
  rw [luminosity_exact, lumQ_shift, add_sub_cancel]
  exact h

theorem softLight_range (hq : SqrtOk q) (b s : Int) (hb : 0 ≤ b ∧ b ≤ 255)
    (hs : 0 ≤ s ∧ s ≤ 255) :
    0 ≤ softLightCh (exactOps q) b s ∧ softLightCh (exactOps q) b s ≤ 255 := by
  rw [softLightCh_exact]
  have hr := softLightQ_range hq (int_unit hb) (int_unit hs)
  generalize softLightQ q _ _ = v at hr ⊢
  exact exactToU32_byte (by linarith only [hr.1]) (by linarith only [hr.2])

theorem unit_toI32 {v : ℚ} (h : 0 ≤ v ∧ v ≤ 1) :
    0 ≤ exactToI32 (v * ((255 : Int) : ℚ)) ∧ exactToI32 (v * ((255 : Int) : ℚ)) ≤ 255 := by
  rw [Int.cast_ofNat]
  exact exactToI32_byte (by linarith only [h.1]) (by linarith only [h.2])

/-- C17 (e) for the floating-point modes in its general form (either build profile): compositing
    with soft light / hue / saturation / color / luminosity never fails — in particular no range
    `debug_assert!` fires — when the floating-point operations are exact and `sqrt` is any
    function with `SqrtOk`. -/
theorem float_mode_total_exact (hq : SqrtOk q) (m : Profile) (mode : Nat)
    (hm : mode = 9 ∨ mode = 12 ∨ mode = 13 ∨ mode = 14 ∨ mode = 15) (b s : RGBA) (o : UInt8) :
    ∃ r, blend (exactOps q) m mode b s o = .ok r := by
  apply blend_total_of_baseline
  -- the HSL modes end in `set_luminocity` with a luminosity of the backdrop or of the source
  have viaLum : ∀ (c : ℚ × ℚ × ℚ) (x : RGBA), ∃ r,
      (fromRgbF (exactOps q) m (setLuminosity (exactOps q) c
        (luminosity (exactOps q) (asRgbF (exactOps q) x))) s.a >>= fun s' => normal m b s' o) =
        .ok r := fun c x =>
    have hc := setLuminosity_range q c _ (luminosity_range q _ (asRgbF_range q x))
    ⟨_, C03.fromRgbaI32_normal_eq m _ _ _ b s o (unit_toI32 hc.1) (unit_toI32 hc.2.1)
      (unit_toI32 hc.2.2)⟩
  rcases hm with rfl | rfl | rfl | rfl | rfl
  · have sl := fun x y : UInt8 => softLight_range q hq _ _ (ch_range x) (ch_range y)
    exact ⟨_, C03.fromRgbaI32_normal_eq m _ _ _ b s o (sl _ _) (sl _ _) (sl _ _)⟩
  · exact viaLum _ b
  · exact viaLum _ b
  · exact viaLum _ b
  · exact viaLum _ s

/-- **C17 (e)**, floating-point modes, exact arithmetic: `float_mode_total_exact` at the checked
    build profile (debug assertions and overflow checks on). -/
theorem float_modes_total_exact (hq : SqrtOk q) :
    ∀ mode ∈ [9, 12, 13, 14, 15], ∀ (b s : RGBA) (o : UInt8),
      ∃ r, blend (exactOps q) Profile.checked mode b s o = .ok r := by
  intro mode hm b s o
  simp only [List.mem_cons, List.mem_nil_iff, or_false] at hm
  exact float_mode_total_exact q hq Profile.checked mode hm b s o

/-- all 19 modes, exact arithmetic, either profile -/
theorem all_modes_total_exact (hq : SqrtOk q) (m : Profile) (mode : Nat) (hmode : mode ≤ 18)
    (b s : RGBA) (o : UInt8) : ∃ r, blend (exactOps q) m mode b s o = .ok r := by
  -- `hmode` states the domain of the property; ids above 18 take the `divide` arm, so the proof
  -- does not use it
  by_cases hf : mode = 9 ∨ (12 ≤ mode ∧ mode ≤ 15)
  · exact float_mode_total_exact q hq m mode (by omega) b s o
  · exact ⟨_, C03.blend_eq_ref_of _ m mode b s o fun h => absurd h hf⟩

/- What follows is the range of `set_saturation`.  Totality does not need it (`clip_color` repairs
   whatever `set_saturation` returns, `clipColor_range`); it is recorded as what the index
   aliasing of `static_sort3_orig`, which C03 shows the Rust to share with Aseprite, does and
   does not do to the channels. -/
theorem getC_sortMin (r g b : ℚ) :
    getC (r, g, b) (staticSort3Orig (exactOps q) r g b).1 = min r (min g b) := by
  simp only [staticSort3Orig, exactOps_lt, exactOps_min, decide_eq_true_eq]
  split_ifs with h1 h2
  · exact (min_eq_left h1.le).symm
  · rw [min_eq_left h2.le] at h1 ⊢
    exact (min_eq_right (not_lt.mp h1)).symm
  · rw [min_eq_right (not_lt.mp h2)] at h1 ⊢
    exact (min_eq_right (not_lt.mp h1)).symm

theorem getC_sortMax (r g b : ℚ) :
    getC (r, g, b) (staticSort3Orig (exactOps q) r g b).2.2 = max r (max g b) := by
  simp only [staticSort3Orig, exactOps_lt, exactOps_max, decide_eq_true_eq]
  split_ifs with h1 h2
  · exact (max_eq_left h1.le).symm
  · rw [max_eq_left h2.le] at h1 ⊢
    exact (max_eq_right (not_lt.mp h1)).symm
  · rw [max_eq_right (not_lt.mp h2)] at h1 ⊢
    exact (max_eq_right (not_lt.mp h1)).symm

theorem min_le_getC (c : ℚ × ℚ × ℚ) (i : Nat) : min c.1 (min c.2.1 c.2.2) ≤ getC c i := by
  unfold getC
  split
  · exact (min3_le _ _ _).1
  · exact (min3_le _ _ _).2.1
  · exact (min3_le _ _ _).2.2

theorem getC_le_max (c : ℚ × ℚ × ℚ) (i : Nat) : getC c i ≤ max c.1 (max c.2.1 c.2.2) := by
  unfold getC
  split
  · exact (le_max3 _ _ _).1
  · exact (le_max3 _ _ _).2.1
  · exact (le_max3 _ _ _).2.2

/-- the MIN/MID/MAX macros select a minimal, a median and a maximal VALUE, but the indices may
    coincide (`r == g < b` gives MIN = MID = 1, `r == g == b` gives MIN = MAX = 2); only MIN and
    MAX matter here -/
theorem sort_spec (c : ℚ × ℚ × ℚ) :
    getC c (staticSort3Orig (exactOps q) c.1 c.2.1 c.2.2).1 ≤
        getC c (staticSort3Orig (exactOps q) c.1 c.2.1 c.2.2).2.1 ∧
      getC c (staticSort3Orig (exactOps q) c.1 c.2.1 c.2.2).2.1 ≤
        getC c (staticSort3Orig (exactOps q) c.1 c.2.1 c.2.2).2.2 :=
  ⟨(getC_sortMin q c.1 c.2.1 c.2.2).trans_le (min_le_getC c _),
   (getC_le_max c _).trans_eq (getC_sortMax q c.1 c.2.1 c.2.2).symm⟩

theorem sort_alias_example :
    staticSort3Orig (exactOps q) (1 / 2) (1 / 2) 1 = (1, 1, 2) := by
  simp only [staticSort3Orig, exactOps_lt, exactOps_min, exactOps_max, decide_eq_true_eq]
  norm_num

def SatBound (sat : ℚ) (c x : ℚ × ℚ × ℚ) : Prop :=
  (0 ≤ x.1 ∧ x.1 ≤ max sat c.1) ∧ (0 ≤ x.2.1 ∧ x.2.1 ≤ max sat c.2.1) ∧
    (0 ≤ x.2.2 ∧ x.2.2 ≤ max sat c.2.2)

theorem SatBound.setC {sat : ℚ} {c x : ℚ × ℚ × ℚ} (h : SatBound sat c x) (i : Nat) {v : ℚ}
    (hv0 : 0 ≤ v) (hv1 : v ≤ sat) : SatBound sat c (setC x i v) := by
  have hv : ∀ y, 0 ≤ v ∧ v ≤ max sat y := fun y => ⟨hv0, hv1.trans (le_max_left _ _)⟩
  match i with
  | 0 => exact ⟨hv _, h.2⟩
  | 1 => exact ⟨h.1, hv _, h.2.2⟩
  | _ + 2 => exact ⟨h.1, h.2.1, hv _⟩

/-- `set_saturation` assigns two values in `[0, sat]` to the slots MID and MAX, then 0 to MIN -/
theorem setSaturation_assigns (c : ℚ × ℚ × ℚ) (sat : ℚ) (hs : 0 ≤ sat) :
    ∃ vd vx : ℚ, (0 ≤ vd ∧ vd ≤ sat) ∧ (0 ≤ vx ∧ vx ≤ sat) ∧
      setSaturation (exactOps q) c sat =
        (fun t : Nat × Nat × Nat => setC (setC (setC c t.2.1 vd) t.2.2 vx) t.1 0)
          (staticSort3Orig (exactOps q) c.1 c.2.1 c.2.2) := by
  have hsort := sort_spec q c
  simp only [setSaturation, exactOps_lt, exactOps_sub, exactOps_mul, exactOps_div,
    exactOps_ofInt, decide_eq_true_eq, Int.cast_zero]
  split_ifs with hlt
  · exact ⟨_, _, mid_range hsort.1 hsort.2 hlt hs, ⟨hs, le_rfl⟩, rfl⟩
  · exact ⟨0, 0, ⟨le_rfl, hs⟩, ⟨le_rfl, hs⟩, rfl⟩

/-- the `max` with the ORIGINAL channel is necessary: by the index aliasing of
    `static_sort3_orig` a channel that is none of MIN/MID/MAX is left untouched
    (`setSaturation_not_le_sat`) -/
theorem setSaturation_range (c : ℚ × ℚ × ℚ) (sat : ℚ)
    (hc : 0 ≤ c.1 ∧ 0 ≤ c.2.1 ∧ 0 ≤ c.2.2) (hs : 0 ≤ sat) :
    SatBound sat c (setSaturation (exactOps q) c sat) := by
  have h0 : SatBound sat c c :=
    ⟨⟨hc.1, le_max_right _ _⟩, ⟨hc.2.1, le_max_right _ _⟩, ⟨hc.2.2, le_max_right _ _⟩⟩
  obtain ⟨vd, vx, hd, hx, e⟩ := setSaturation_assigns q c sat hs
  rw [e]
  exact ((h0.setC _ hd.1 hd.2).setC _ hx.1 hx.2).setC _ le_rfl hs

theorem setSaturation_unit (c : ℚ × ℚ × ℚ) (sat : ℚ) (hc : Unit3 c) (hs : 0 ≤ sat ∧ sat ≤ 1) :
    Unit3 (setSaturation (exactOps q) c sat) := by
  have h := setSaturation_range q c sat ⟨hc.1.1, hc.2.1.1, hc.2.2.1⟩ hs.1
  exact ⟨⟨h.1.1, le_trans h.1.2 (max_le hs.2 hc.1.2)⟩,
    ⟨h.2.1.1, le_trans h.2.1.2 (max_le hs.2 hc.2.1.2)⟩,
    ⟨h.2.2.1, le_trans h.2.2.2 (max_le hs.2 hc.2.2.2)⟩⟩

/-- counterexample to the naive bound "all result channels are in `[0, sat]`": with
    `r == g < b` the red channel is none of MIN/MID/MAX and keeps its value `1/2 > sat = 1/10` -/
theorem setSaturation_not_le_sat :
    setSaturation (exactOps q) (1 / 2, 1 / 2, 1) (1 / 10) = (1 / 2, 0, 1 / 10) := by
  simp only [setSaturation, sort_alias_example, getC, setC, exactOps_lt, exactOps_sub,
    exactOps_mul, exactOps_div, exactOps_ofInt, decide_eq_true_eq, Int.cast_zero]
  norm_num

/-- the same quirk on a grey colour: red survives -/
theorem setSaturation_grey (x sat : ℚ) :
    setSaturation (exactOps q) (x, x, x) sat = (x, 0, 0) := by
  simp only [setSaturation, setC, staticSort3Orig, getC, exactOps_min, exactOps_max,
    exactOps_lt, exactOps_ofInt, min_self, max_self, lt_self_iff_false, decide_false,
    Bool.false_eq_true, if_false, Int.cast_zero]

theorem sort_perm (r g b : ℚ) (h1 : r ≠ g) (h2 : r ≠ b) (h3 : g ≠ b) :
    staticSort3Orig (exactOps q) r g b ∈
      [(0, 1, 2), (0, 2, 1), (1, 0, 2), (1, 2, 0), (2, 0, 1), (2, 1, 0)] := by
  simp only [staticSort3Orig, exactOps_lt, exactOps_min, exactOps_max, decide_eq_true_eq,
    lt_min_iff, max_lt_iff]
  rcases lt_or_gt_of_ne h1 with a | a <;> rcases lt_or_gt_of_ne h2 with b' | b' <;>
    rcases lt_or_gt_of_ne h3 with c | c
  -- two of the eight sign patterns are cyclic; the other six are the strict orders of `r, g, b`
  case inl.inr.inl => -- `r < g`, `b < r`, `g < b`
    exact absurd (b'.trans (a.trans c)) (lt_irrefl _)
  case inr.inl.inr => -- `g < r`, `r < b`, `b < g`
    exact absurd (a.trans (b'.trans c)) (lt_irrefl _)
  all_goals
    simp only [a, b', c, a.not_gt, b'.not_gt, c.not_gt, and_self, and_true, and_false, if_true,
      if_false]
    decide

/-- stated of any `x` equal to the result, so that it applies where the result is written as a
    β-redex (`setSaturation_assigns`) -/
theorem setC_perm {t : Nat × Nat × Nat}
    (ht : t ∈ [(0, 1, 2), (0, 2, 1), (1, 0, 2), (1, 2, 0), (2, 0, 1), (2, 1, 0)])
    (c : ℚ × ℚ × ℚ) (vn vd vx : ℚ) (P : ℚ → Prop) (hn : P vn) (hd : P vd) (hx : P vx) :
    ∀ x, x = setC (setC (setC c t.2.1 vd) t.2.2 vx) t.1 vn → P x.1 ∧ P x.2.1 ∧ P x.2.2 := by
  rintro _ rfl
  simp only [List.mem_cons, List.mem_nil_iff, or_false] at ht
  rcases ht with rfl | rfl | rfl | rfl | rfl | rfl
  · exact ⟨hn, hd, hx⟩
  · exact ⟨hn, hx, hd⟩
  · exact ⟨hd, hn, hx⟩
  · exact ⟨hx, hn, hd⟩
  · exact ⟨hd, hx, hn⟩
  · exact ⟨hx, hd, hn⟩

/-- without the aliasing quirk (pairwise distinct channels) every result channel of
    `set_saturation(c, sat)` is in `[0, sat]` — for ANY channels, `sat ≥ 0` -/
theorem setSaturation_range_distinct (c : ℚ × ℚ × ℚ) (sat : ℚ)
    (hd : c.1 ≠ c.2.1 ∧ c.1 ≠ c.2.2 ∧ c.2.1 ≠ c.2.2) (hs : 0 ≤ sat) :
    (0 ≤ (setSaturation (exactOps q) c sat).1 ∧ (setSaturation (exactOps q) c sat).1 ≤ sat) ∧
    (0 ≤ (setSaturation (exactOps q) c sat).2.1 ∧
      (setSaturation (exactOps q) c sat).2.1 ≤ sat) ∧
    (0 ≤ (setSaturation (exactOps q) c sat).2.2 ∧
      (setSaturation (exactOps q) c sat).2.2 ≤ sat) := by
  obtain ⟨vd, vx, hvd, hvx, e⟩ := setSaturation_assigns q c sat hs
  rw [e]
  exact setC_perm (sort_perm q c.1 c.2.1 c.2.2 hd.1 hd.2.1 hd.2.2) c 0 vd vx
    (fun v => 0 ≤ v ∧ v ≤ sat) ⟨le_rfl, hs⟩ hvd hvx _ rfl

end Ase.Proofs.C17
