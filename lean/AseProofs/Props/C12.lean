import Ase.Alloc
import AseProofs.Lemmas.Uniform
import AseProofs.Lemmas.SatC
/-
  C12  Memory used while loading is bounded by the bytes actually supplied: the allocation
  account `Ase.Alloc.reserved` (that file says what it charges) stays below 64 MiB + 8192 bytes
  per input byte.
-/
namespace Ase.Proofs.C12
open Ase Ase.Alloc

/-- part of `alloc_bound`: what a framed chunk consumed, so that a charge per payload byte is a
    charge per input byte -/
theorem readChunk_len {avail avail' : Int} {bs rest : Bytes} {c : Chunk}
    (h : readChunk bytesSrc avail bs = .ok ((c, avail'), rest)) :
    bs.length = 6 + c.data.length + rest.length := by
  have hs : SatC True (fun r u => u = 6 + r.1.data.length) (readChunk bytesSrc avail) := by
    unfold readChunk
    refine SatC_bind_fixed (fun size => ?_)
    refine SatC_bind_fixed (fun code => ?_)
    refine SatC_bind_lift (fun _ => C04.noPanic_parseChunkType code) (fun ty _ => ?_)
    refine SatC_ite _ (SatC_fail _) (SatC_ite _ (SatC_fail _) ?_)
    refine SatC_bind (satC_read _) (fun data n hd => SatC_pure ?_)
    simp only
    omega
  obtain ⟨u, hu, rfl⟩ := hs.of_ok h
  exact hu

/-- part of `alloc_bound`: the dearest arm of `chunkCost` (cel, tileset: 7228 n + 9400) stays
    below 8192 per consumed byte -/
theorem chunkCost_le (c : Chunk) : chunkCost c ≤ 8192 * (6 + c.data.length) := by
  unfold chunkCost
  split
  · omega
  · omega
  · split <;> omega
  · omega

/-- part of `alloc_bound`: the chunks of one frame, with what is left still to be charged -/
theorem readChunksPartial_cost : ∀ (n : Nat) (avail : Int) (bs : Bytes),
    ((readChunksPartial n avail bs).1.map chunkCost).sum +
        8192 * (readChunksPartial n avail bs).2.length
      ≤ 8192 * bs.length
  | 0, _, _ => Nat.le_of_eq (Nat.zero_add _)
  | n + 1, avail, bs => by
      unfold readChunksPartial
      split
      · rename_i c avail' rest hc
        have hl := readChunk_len hc
        have := readChunksPartial_cost n avail' rest
        have hcc := chunkCost_le c
        simp only [List.map_cons, List.sum_cons]
        omega
      · exact Nat.le_of_eq (Nat.zero_add _)

/-- part of `alloc_bound`: all frames -/
theorem framesCost_le : ∀ (n : Nat) (bs : Bytes), framesCost n bs ≤ 8192 * bs.length
  | 0, _ => Nat.zero_le _
  | n + 1, bs => by
      unfold framesCost
      split
      · rename_i h rest hh
        have hl := SrcSim.strict_readFrameHeader.length_le hh
        have hc := readChunksPartial_cost h.numChunks ((h.numBytes.toNat : Int) - 16) rest
        dsimp only
        split
        · have := framesCost_le n
            (readChunksPartial h.numChunks ((h.numBytes.toNat : Int) - 16) rest).2
          omega
        · omega
      · omega

/-- **C12**: for every byte string the allocation account stays below 64 MiB + 8192 bytes per
    input byte supplied — sizes and counts that are merely declared in the file do not enter
    it at all (the account is a function of the bytes consumed and of the frame count,
    which is at most 65535). -/
theorem alloc_bound (bs : Bytes) : reserved bs ≤ bound bs.length := by
  unfold reserved bound
  split
  · rename_i h rest hh
    have hf := framesCost_le h.numFrames.toNat rest
    have hn : h.numFrames.toNat < 65536 := h.numFrames.toNat_lt
    have hlen : rest.length ≤ bs.length := SrcSim.strict_readHeader.length_le hh
    simp only [fixedCost, transientCost]
    -- fixed (1 MiB + 256 · 65535) and transient (8 MiB) are below 64 MiB; the frames are `hf`
    omega
  · simp only [transientCost]
    omega

end Ase.Proofs.C12
