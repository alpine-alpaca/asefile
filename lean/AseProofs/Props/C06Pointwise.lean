import AseProofs.Lemmas.Raster
import AseProofs.Props.C17
/-
  C06 (point-wise)  A raw cel's image: the stored pixels placed at the cel offset, clipped to
  the canvas, alpha scaled by the rounded product of layer and cel opacity; everything else
  fully transparent.
-/
namespace Ase.Proofs.C06
open Ase Ase.Proofs

variable {F : Type} (ops : FOps F) (m : Profile)

/-- the cel image as a blend over the transparent canvas: inside the cel rectangle the pixel is
    `blend layer.blendMode RGBA.zero rgba[(Y - y) * w + (X - x)] op` with
    `op = mulUn8 layerOpacity celOpacity`, outside it is fully transparent -/
theorem celImage_spec_blend (s : Sprite) (f l : Nat) (c : RawCel Pixels) (w h : UInt16)
    (px : Pixels) (rgba : Array RGBA) (layer : LayerData) (img : Image)
    (hc : s.cel f l = .ok (some c)) (hraw : c.content = .raw w h px)
    (hrgba : pixelsToRgba s.palette px = .ok rgba)
    (hlayer : s.layers[c.data.layerIndex.toNat]? = some layer)
    (himg : s.celImage ops m f l = .ok img)
    (X Y : Nat) (hX : X < s.width.toNat) (hY : Y < s.height.toNat) :
    (InRect c.data.x.toInt c.data.y.toInt w.toNat h.toNat X Y →
      ∃ p v,
        rgba[((Y : Int) - c.data.y.toInt).toNat * w.toNat + ((X : Int) - c.data.x.toInt).toNat]?
          = some p ∧
        Blend.blend ops m layer.blendMode RGBA.zero p
          (Blend.mulUn8 (Blend.ch layer.opacity) (Blend.ch c.data.opacity)) = .ok v ∧
        img.get X Y = .ok v) ∧
    (¬ InRect c.data.x.toInt c.data.y.toInt w.toNat h.toNat X Y →
      img.get X Y = .ok RGBA.zero) := by
  have hw : Sprite.writeRawCel ops m s.canvas c.data w h rgba layer.blendMode layer.opacity
      = .ok img := by
    simpa only [Sprite.celImage, hc, Sprite.writeCel, hraw, Sprite.writeCelDirect, hlayer, hrgba]
      using himg
  exact (writeRawCel_painted ops m s.canvas img c.data w h rgba layer.blendMode layer.opacity
    hw).of_canvas hX hY

/-- **C06** (cel image, point-wise): for a raw cel, in every blend mode and both build profiles,
    the image shows inside the cel rectangle the stored (converted) pixel with its alpha scaled
    by `mulUn8 layerOpacity celOpacity`; every other position is fully transparent -/
theorem celImage_spec (s : Sprite) (f l : Nat) (c : RawCel Pixels) (w h : UInt16)
    (px : Pixels) (rgba : Array RGBA) (layer : LayerData) (img : Image)
    (hc : s.cel f l = .ok (some c)) (hraw : c.content = .raw w h px)
    (hrgba : pixelsToRgba s.palette px = .ok rgba)
    (hlayer : s.layers[c.data.layerIndex.toNat]? = some layer)
    (himg : s.celImage ops m f l = .ok img)
    (X Y : Nat) (hX : X < s.width.toNat) (hY : Y < s.height.toNat) :
    (InRect c.data.x.toInt c.data.y.toInt w.toNat h.toNat X Y →
      ∃ p, rgba[((Y : Int) - c.data.y.toInt).toNat * w.toNat + ((X : Int) - c.data.x.toInt).toNat]?
              = some p ∧
        img.get X Y = .ok ⟨p.r, p.g, p.b,
          Blend.mulUn8 (Blend.ch p.a)
            (Blend.ch (Blend.mulUn8 (Blend.ch layer.opacity) (Blend.ch c.data.opacity)))⟩) ∧
    (¬ InRect c.data.x.toInt c.data.y.toInt w.toNat h.toNat X Y → img.get X Y = .ok RGBA.zero) := by
  have hsp := celImage_spec_blend ops m s f l c w h px rgba layer img hc hraw hrgba hlayer himg
    X Y hX hY
  refine ⟨fun hin => ?_, hsp.2⟩
  obtain ⟨p, v, h1, h2, h3⟩ := hsp.1 hin
  rw [C17.over_transparent ops m layer.blendMode RGBA.zero p _ rfl] at h2
  cases h2
  exact ⟨p, h1, h3⟩

end Ase.Proofs.C06
