import AseProofs.Lemmas.Paint
/-
  C08  Tilemap and tileset images agree with tile lookups.

  Here: the lookups and the tile and tileset images, which need no drawing lemma.
-/
namespace Ase.Proofs.C08
open Ase Ase.Proofs

/-- `Sprite.tilemap` inverted.  In this order: the layer and that it is a tilemap layer, its
    tileset, the cel and that it is a tilemap cel, the view's frame and layer, the tile size
    non-zero (width, height), the logical size (width, height). -/
theorem tilemap_eq_ok_some (s : Sprite) (l f : Nat) (v : TilemapView)
    (h : s.tilemap l f = .ok (some v)) :
    ∃ ld tsid, s.layers[l]? = some ld ∧ ld.layerType = .tilemap tsid ∧
      s.tileset? tsid.toNat = some v.tileset ∧ s.cel f l = .ok (some v.cel) ∧
      v.cel.content = .tilemap v.data ∧ v.frame = f ∧ v.layer = l ∧
      v.tileset.tileW.toNat ≠ 0 ∧ v.tileset.tileH.toNat ≠ 0 ∧
      v.logicalW = (s.width.toNat + v.tileset.tileW.toNat - 1) / v.tileset.tileW.toNat ∧
      v.logicalH = (s.height.toNat + v.tileset.tileH.toNat - 1) / v.tileset.tileH.toNat := by
  -- the splits follow the tests and matches of `Sprite.tilemap` in source order; every `cases h`
  -- closes an arm that returns no view
  unfold Sprite.tilemap at h
  split at h
  · cases h
  · split at h
    · cases h
    · rename_i ld hld
      split at h
      · rename_i tsid hlt
        split at h
        · cases h
        · rename_i ts hts
          split at h
          · rename_i c hc
            split at h
            · rename_i t hcont
              dsimp only at h
              split at h
              · cases h
              · rename_i hz
                split at h
                · cases h
                  simp only [Bool.or_eq_true, beq_iff_eq, not_or] at hz
                  exact ⟨ld, tsid, hld, hlt, hts, hc, hcont, rfl, rfl, hz.1, hz.2, rfl, rfl⟩
                · cases h
            · cases h
          · cases h
          · cases h
          · cases h
      · cases h

/-- **C08** (size): the tilemap's size in tiles is the canvas size divided by the tile size,
    rounded up; the tile size is not zero -/
theorem tilemap_size (s : Sprite) (l f : Nat) (v : TilemapView) (h : s.tilemap l f = .ok (some v)) :
    v.logicalW = (s.width.toNat + v.tileset.tileW.toNat - 1) / v.tileset.tileW.toNat ∧
    v.logicalH = (s.height.toNat + v.tileset.tileH.toNat - 1) / v.tileset.tileH.toNat ∧
    v.tileset.tileW.toNat ≠ 0 ∧ v.tileset.tileH.toNat ≠ 0 :=
  let ⟨_, _, _, _, _, _, _, _, _, hw, hh, h1, h2⟩ := tilemap_eq_ok_some s l f v h
  ⟨h1, h2, hw, hh⟩

/-- **C08** (size): rounded-up division really is the ceiling: `w` tiles cover the canvas,
    `w - 1` do not -/
theorem ceil_div_spec (W t : Nat) (ht : 0 < t) :
    W ≤ ((W + t - 1) / t) * t ∧ (0 < W → ((W + t - 1) / t - 1) * t < W) := by
  have h1 := Nat.div_add_mod (W + t - 1) t
  have h2 := Nat.mod_lt (W + t - 1) ht
  constructor
  · rw [Nat.mul_comm]
    omega
  · intro hW
    have hq : 1 ≤ (W + t - 1) / t := by
      apply (Nat.le_div_iff_mul_le ht).mpr
      omega
    rw [Nat.sub_mul, Nat.mul_comm ((W + t - 1) / t)]
    omega

/-- **C08** (offsets): the tile offsets are the cel offset divided by the tile size (truncating) -/
theorem tile_offsets (v : TilemapView) (hw : v.tileset.tileW.toNat ≠ 0) (hh : v.tileset.tileH.toNat ≠ 0) :
    v.tileOffsets = .ok (Int.tdiv v.cel.data.x.toInt v.tileset.tileW.toNat,
                         Int.tdiv v.cel.data.y.toInt v.tileset.tileH.toNat) := by
  simp only [TilemapView.tileOffsets, Bool.or_eq_true, beq_iff_eq, hw, hh, or_self, if_false]

/-- **C08** (lookups): outside the stored tile area they return the empty tile 0, for every pair
    of `u32` coordinates (indeed for all naturals) — no overflow, no panic -/
theorem tile_outside_empty (v : TilemapView) (x y : Nat) (ox oy : Int)
    (hofs : v.tileOffsets = .ok (ox, oy))
    (hout : (x : Int) - ox < 0 ∨ (y : Int) - oy < 0 ∨ (x : Int) - ox ≥ v.data.width.toNat ∨
            (y : Int) - oy ≥ v.data.height.toNat) :
    v.tile x y = .ok 0 := by
  simp only [TilemapView.tile, hofs]
  rw [if_pos]
  simpa only [Bool.or_eq_true, decide_eq_true_eq, or_assoc] using hout

/-- **C08** (lookups): inside the stored area they return the stored tile id, given that the
    stored map holds `width * height` tiles (which loading guarantees) -/
theorem tile_inside (v : TilemapView) (x y : Nat) (ox oy : Int)
    (hofs : v.tileOffsets = .ok (ox, oy))
    (hsize : v.data.tiles.size = v.data.width.toNat * v.data.height.toNat)
    (hx0 : 0 ≤ (x : Int) - ox) (hy0 : 0 ≤ (y : Int) - oy)
    (hx : (x : Int) - ox < v.data.width.toNat) (hy : (y : Int) - oy < v.data.height.toNat) :
    ∃ id, v.data.tiles[((y : Int) - oy).toNat * v.data.width.toNat + ((x : Int) - ox).toNat]? = some id ∧
      v.tile x y = .ok id.toNat := by
  have hidx : ((y : Int) - oy).toNat * v.data.width.toNat + ((x : Int) - ox).toNat
      < v.data.tiles.size := by
    rw [hsize]
    exact index_lt ((Int.toNat_lt hx0).mpr hx) ((Int.toNat_lt hy0).mpr hy)
  refine ⟨_, Array.getElem?_eq_getElem hidx, ?_⟩
  simp only [TilemapView.tile, hofs]
  rw [if_neg, Array.getElem?_eq_getElem hidx]
  simp only [Bool.or_eq_true, decide_eq_true_eq, not_or, Int.not_lt, ge_iff_le, Int.not_le]
  exact ⟨⟨⟨hx0, hy0⟩, hx⟩, hy⟩

/-- **C08** (tile image): when it is produced it has exactly the tile size, and it is the window
    `[i * w*h, (i+1) * w*h)` of the tileset's pixels -/
theorem tileImage_spec (pal : Option Palette) (ts : Tileset Pixels) (i : Nat) (img : Image)
    (h : ts.tileImage pal i = .ok img) :
    img.w = ts.tileW.toNat ∧ img.h = ts.tileH.toNat ∧ i < ts.tileCount.toNat ∧
    ∃ px rgba, ts.pixels = some px ∧ pixelsToRgba pal px = .ok rgba ∧
      img.px = (rgba.extract (i * (ts.tileW.toNat * ts.tileH.toNat))
                 (i * (ts.tileW.toNat * ts.tileH.toNat) + ts.tileW.toNat * ts.tileH.toNat)).extract 0
                 (ts.tileW.toNat * ts.tileH.toNat) := by
  unfold Tileset.tileImage at h
  split at h
  · cases h
  · rename_i hi
    split at h
    · cases h
    · rename_i px hpx
      split at h
      · rename_i rgba hrgba
        dsimp only at h
        unfold Image.fromRaw at h
        split at h
        · cases h
        · cases h
          exact ⟨rfl, rfl, by omega, px, rgba, hpx, hrgba, rfl⟩
      · cases h
      · cases h

/-- **C08** (tileset image): when it is produced it is the tileset's pixels in tile order, with
    width `tile width` and height `tile height * tile count`.  Remark, not part of the statement:
    by `tileImage_spec` tile `i` is the window `[i * w*h, (i+1) * w*h)` of the same pixels, that
    is rows `i * th … (i + 1) * th` of this image. -/
theorem tilesetImage_spec (m : Profile) (pal : Option Palette) (ts : Tileset Pixels) (img : Image)
    (h : ts.image m pal = .ok img) (hfit : ts.tileH.toNat * ts.tileCount.toNat < 4294967296) :
    img.w = ts.tileW.toNat ∧ img.h = ts.tileH.toNat * ts.tileCount.toNat ∧
    ∃ px rgba, ts.pixels = some px ∧ pixelsToRgba pal px = .ok rgba ∧
      img.px = rgba.extract 0 (ts.tileW.toNat * (ts.tileH.toNat * ts.tileCount.toNat)) := by
  unfold Tileset.image at h
  simp only [u32Mul, hfit, if_true] at h
  split at h
  · cases h
  · rename_i px hpx
    split at h
    · rename_i rgba hrgba
      unfold Image.fromRaw at h
      split at h
      · cases h
      · cases h
        exact ⟨rfl, rfl, px, rgba, hpx, hrgba, rfl⟩
    · cases h
    · cases h

end Ase.Proofs.C08
