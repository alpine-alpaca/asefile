import AseProofs.Lemmas.Util
import AseProofs.Lemmas.Assoc
/-
  C18  The optional utilities of `src/util.rs`: border extrusion as clamped look-ups, the palette
  mapper for EVERY iteration order of the palette's hash map, the indexed-image conversion.
-/
namespace Ase.Proofs.C18
open Ase Ase.Util Ase.Proofs.UtilLemmas

/-- what one loop iteration appends for source row `r` -/
def rowArr (px : Array RGBA) (w r : Nat) : Array RGBA :=
  px.extract (r * w) (r * w + 1) ++ px.extract (r * w) (r * w + w) ++
    px.extract (r * w + w - 1) (r * w + w)

theorem row_bound {w h r : Nat} (hr : r < h) : r * w + w ≤ w * h := by
  have : (r + 1) * w ≤ h * w := Nat.mul_le_mul_right w hr
  rw [Nat.succ_mul] at this
  rw [Nat.mul_comm w h]
  exact this

/-- Written without subtraction (`w = v + 1`, `a = r * w`) and with the sizes of the three slices
    rewritten before the case split: `omega` over the `min`s of `Array.size_extract` and over
    truncated subtraction under the nested `if`s of `getElem?_append` is slow to check. -/
theorem rowArr_spec (px : Array RGBA) (w h r : Nat) (hsz : px.size = w * h) (hw : 1 ≤ w)
    (hr : r < h) : (rowArr px w r).size = w + 2 ∧
      ∀ x < w + 2, (rowArr px w r)[x]? = px[r * w + min (x - 1) (w - 1)]? := by
  have hb : r * w + w ≤ px.size := hsz ▸ row_bound hr
  obtain ⟨v, rfl⟩ : ∃ v, w = v + 1 := ⟨w - 1, by omega⟩
  unfold rowArr
  generalize r * (v + 1) = a at hb ⊢
  clear hsz hr hw
  have hb1 : a + 1 ≤ px.size := by omega
  simp only [Array.getElem?_append, Array.size_append, size_extract_of_le px hb,
    size_extract_of_le px hb1, Nat.add_succ_sub_one, Nat.add_sub_cancel, Nat.add_sub_cancel_left,
    Nat.add_sub_add_left]
  refine ⟨by omega, fun x hx => ?_⟩
  split
  · split
    · -- `x = 0`: the left border, pixel 0 of the row
      rw [getElem?_extract_lt px (by omega) (by omega)]
      congr 1
      omega
    · -- `1 ≤ x ≤ w`: pixel `x - 1`
      rw [getElem?_extract_lt px hb (by omega)]
      congr 1
      omega
  · -- `x = w + 1`: the right border, pixel `w - 1`
    rw [getElem?_extract_lt px hb (by omega)]
    congr 1
    omega

theorem extrudeLoop_ok (px : Array RGBA) (w h : Nat) (hsz : px.size = w * h) (hw : 1 ≤ w) :
    ∀ (rows : List Nat), (∀ r ∈ rows, r < h) → ∀ (data : Array RGBA),
      ∃ out, extrudeLoop px w rows data = .ok out ∧
        out.toList = data.toList ++ rows.flatMap (fun r => (rowArr px w r).toList)
  | [], _, data => ⟨data, rfl, (List.append_nil _).symm⟩
  | r :: rest, hrows, data => by
      have hb : r * w + w ≤ px.size := hsz ▸ row_bound (hrows r (List.mem_cons_self ..))
      obtain ⟨out, hout, hlist⟩ := extrudeLoop_ok px w h hsz hw rest
        (fun q hq => hrows q (List.mem_cons_of_mem _ hq)) (data ++ rowArr px w r)
      refine ⟨out, ?_, by rw [hlist, Array.toList_append, List.flatMap_cons, List.append_assoc]⟩
      rw [← hout, rowArr, ← Array.append_assoc, ← Array.append_assoc]
      simp only [extrudeLoop, slice]
      rw [if_pos (by omega), if_pos (by omega), if_pos (by omega)]

theorem rowIndices_length (h : Nat) : (rowIndices h).length = h + 2 := by
  rw [rowIndices, List.length_cons, List.length_append, List.length_range]
  rfl

theorem rowIndices_lt (h : Nat) (hh : 1 ≤ h) : ∀ r ∈ rowIndices h, r < h := by
  intro r hr
  simp only [rowIndices, List.mem_cons, List.mem_append, List.mem_range, List.mem_nil_iff,
    or_false] at hr
  omega

theorem rowIndices_get (h y : Nat) (hh : 1 ≤ h) (hy : y < h + 2) :
    (rowIndices h)[y]? = some (min (y - 1) (h - 1)) := by
  unfold rowIndices
  cases y with
  | zero => rfl
  | succ y =>
      rw [List.getElem?_cons_succ, Nat.add_sub_cancel, List.getElem?_append, List.length_range]
      split
      next hlt => rw [List.getElem?_range hlt, Nat.min_eq_left (by omega)]
      next =>
        obtain rfl : y = h := by omega
        rw [Nat.sub_self, Nat.min_eq_right (by omega)]
        rfl

/-- **C18**, extrusion: on a well-formed `w x h` image with `w, h ≥ 1` the function succeeds;
    the result is `(w+2) x (h+2)` and its pixel `(x, y)` is the input pixel at
    `(clamp(x-1, 0, w-1), clamp(y-1, 0, h-1))` (natural subtraction is the lower clamp). -/
theorem extrude_spec (img : Image) (hsz : img.px.size = img.w * img.h)
    (hw : 1 ≤ img.w) (hh : 1 ≤ img.h) :
    ∃ out, extrudeBorder img = .ok out ∧ out.w = img.w + 2 ∧ out.h = img.h + 2 ∧
      out.px.size = (img.w + 2) * (img.h + 2) ∧
      ∀ x y, x < img.w + 2 → y < img.h + 2 →
        out.px[y * (img.w + 2) + x]? =
          img.px[min (y - 1) (img.h - 1) * img.w + min (x - 1) (img.w - 1)]? := by
  have hlt := rowIndices_lt img.h hh
  obtain ⟨data, hloop, hlist⟩ :=
    extrudeLoop_ok img.px img.w img.h hsz hw (rowIndices img.h) hlt #[]
  rw [List.nil_append] at hlist
  have hrow : ∀ r ∈ rowIndices img.h, (rowArr img.px img.w r).toList.length = img.w + 2 :=
    fun r hr => (rowArr_spec img.px img.w img.h r hsz hw (hlt r hr)).1
  have hsize : data.size = (img.w + 2) * (img.h + 2) := by
    rw [← Array.length_toList, hlist, length_flatMap_uniform _ _ _ hrow, rowIndices_length,
      Nat.mul_comm]
  refine ⟨⟨img.w + 2, img.h + 2, data⟩, ?_, rfl, rfl, hsize, fun x y hx hy => ?_⟩
  · unfold extrudeBorder
    rw [if_neg (by omega), hloop]
    simp only [Image.fromRaw]
    rw [if_neg (by omega), Array.extract_eq_self_of_le (by omega)]
  · show data[y * (img.w + 2) + x]? = _
    rw [← Array.getElem?_toList, hlist, getElem?_flatMap_uniform _ _ _ hrow y x hx,
      rowIndices_get img.h y hh hy, Option.bind_some, Array.getElem?_toList]
    exact (rowArr_spec img.px img.w img.h _ hsz hw (by omega)).2 x hx

/-- The clamped source position is inside the input image, so the right-hand side of
    `extrude_spec` is always an actual pixel. -/
theorem clamp_in_range (img : Image) (hsz : img.px.size = img.w * img.h)
    (hw : 1 ≤ img.w) (hh : 1 ≤ img.h) (x y : Nat) :
    min (y - 1) (img.h - 1) * img.w + min (x - 1) (img.w - 1) < img.px.size := by
  have hr : min (y - 1) (img.h - 1) < img.h := by omega
  have := row_bound (w := img.w) hr
  omega

/-- `extrude_spec` through the model's pixel accessor `Image.get`. -/
theorem extrude_spec_get (img : Image) (hsz : img.px.size = img.w * img.h)
    (hw : 1 ≤ img.w) (hh : 1 ≤ img.h) :
    ∃ out, extrudeBorder img = .ok out ∧
      ∀ x y, x < img.w + 2 → y < img.h + 2 →
        out.get x y = img.get (min (x - 1) (img.w - 1)) (min (y - 1) (img.h - 1)) ∧
        ∃ c, out.get x y = .ok c := by
  obtain ⟨out, hout, hw', hh', _, hpx⟩ := extrude_spec img hsz hw hh
  refine ⟨out, hout, fun x y hx hy => ?_⟩
  have h2 : min (x - 1) (img.w - 1) < img.w ∧ min (y - 1) (img.h - 1) < img.h := by omega
  simp only [Image.get, hw', hh', hx, hy, h2, decide_true, Bool.and_self, if_true,
    Array.getD_eq_getD_getElem?, hpx x y hx hy]
  exact ⟨trivial, _, rfl⟩

/-- For `w = 0` or `h = 0` the model reports the Rust panic. -/
theorem extrude_degenerate (img : Image) (h0 : img.w = 0 ∨ img.h = 0) :
    extrudeBorder img = .panic .sliceRange :=
  if_pos h0

/-- the entry has the RGB value `(r, g, b)` (alpha is ignored by the mapper) -/
def SameRGB (e : PalEntry) (r g b : UInt8) : Prop :=
  e.rgba.r = r ∧ e.rgba.g = g ∧ e.rgba.b = b

instance (e : PalEntry) (r g b : UInt8) : Decidable (SameRGB e r g b) := by
  unfold SameRGB; exact inferInstance

theorem lookup_opaque (order : List (Nat × PalEntry)) (opts : MappingOptions) (r g b : UInt8) :
    (∃ p ∈ order, SameRGB p.2 r g b ∧
      (PaletteMapper.new order opts).lookup r g b 255 = mapValue opts p.1) ∨
    ((∀ p ∈ order, ¬ SameRGB p.2 r g b) ∧
      (PaletteMapper.new order opts).lookup r g b 255 = opts.failure) := by
  -- the mapper's table is a fold of inserts over `order`, so the look-up finds the last pair of
  -- `order` whose colour key is that of `(r, g, b)`, if there is one
  have h : (PaletteMapper.new order opts).lookup r g b 255 = _ :=
    congrArg (Option.getD · opts.failure) (assocGet?_foldl_insert
      (fun p : Nat × PalEntry => colorKey p.2.rgba.r p.2.rgba.g p.2.rgba.b)
      (fun p => mapValue opts p.1) (colorKey r g b) order [])
  rw [h]
  cases hf : (order.filter _).getLast? with
  | none =>
    rw [List.getLast?_eq_none_iff, List.filter_eq_nil_iff] at hf
    exact .inr ⟨fun p hp hrgb => hf p hp (beq_iff_eq.mpr ((colorKey_inj ..).mpr hrgb)), rfl⟩
  | some p =>
    have hp := List.mem_filter.mp (List.mem_of_getLast? hf)
    exact .inl ⟨p, hp.1, (colorKey_inj ..).mp (beq_iff_eq.mp hp.2), rfl⟩

/-- **C18**, palette mapper.  `order` is ANY iteration order of the palette's hash map: the only
    assumption is that it yields the same `(key, entry)` pairs as `pal.entries` (every
    permutation does, see `mapper_spec_perm`).  Duplicated colours, keys ≥ 256 and all
    options are allowed. -/
theorem mapper_spec (pal : Palette) (order : List (Nat × PalEntry)) (opts : MappingOptions)
    (horder : ∀ p, p ∈ order ↔ p ∈ pal.entries) (r g b alpha : UInt8) :
    -- (a) transparent
    (alpha ≠ 255 →
      (PaletteMapper.new order opts).lookup r g b alpha = opts.transparent.getD opts.failure) ∧
    -- (b) opaque, colour not in the palette
    (alpha = 255 → (∀ p ∈ pal.entries, ¬ SameRGB p.2 r g b) →
      (PaletteMapper.new order opts).lookup r g b alpha = opts.failure) ∧
    -- (c) opaque, colour in the palette, all its occurrences at indices below 256
    (alpha = 255 → (∃ p ∈ pal.entries, SameRGB p.2 r g b) →
      (∀ p ∈ pal.entries, SameRGB p.2 r g b → p.1 < 256) →
      ∃ p ∈ pal.entries, SameRGB p.2 r g b ∧ p.1 < 256 ∧
        (PaletteMapper.new order opts).lookup r g b alpha = UInt8.ofNat p.1 ∧
        ((PaletteMapper.new order opts).lookup r g b alpha).toNat = p.1) ∧
    -- (d) opaque, colour in the palette, some occurrence possibly at an index ≥ 256
    (alpha = 255 → (∃ p ∈ pal.entries, SameRGB p.2 r g b) →
      ∃ p ∈ pal.entries, SameRGB p.2 r g b ∧
        ((p.1 < 256 ∧ (PaletteMapper.new order opts).lookup r g b alpha = UInt8.ofNat p.1) ∨
         (256 ≤ p.1 ∧ (PaletteMapper.new order opts).lookup r g b alpha = opts.failure))) := by
  have key := lookup_opaque order opts r g b
  simp only [horder] at key
  have present : alpha = 255 → (∃ p ∈ pal.entries, SameRGB p.2 r g b) →
      ∃ p ∈ pal.entries, SameRGB p.2 r g b ∧
        (PaletteMapper.new order opts).lookup r g b alpha = mapValue opts p.1 := by
    rintro rfl ⟨q, hq, hqrgb⟩
    rcases key with h | ⟨hno, _⟩
    · exact h
    · exact absurd hqrgb (hno q hq)
  refine ⟨fun ha => ?_, ?_, fun ha hsome hlow => ?_, fun ha hsome => ?_⟩
  · unfold PaletteMapper.lookup
    rw [if_pos (bne_iff_ne.mpr ha)]
    rfl
  · rintro rfl hno
    rcases key with ⟨p, hp, hrgb, _⟩ | ⟨_, h⟩
    · exact absurd hrgb (hno p hp)
    · exact h
  · obtain ⟨p, hp, hrgb, hval⟩ := present ha hsome
    have hlt := hlow p hp hrgb
    rw [mapValue, if_pos hlt] at hval
    exact ⟨p, hp, hrgb, hlt, hval, hval ▸ UInt8.toNat_ofNat_of_lt' hlt⟩
  · obtain ⟨p, hp, hrgb, hval⟩ := present ha hsome
    refine ⟨p, hp, hrgb, ?_⟩
    rw [hval, mapValue]
    split
    next hlt => exact .inl ⟨hlt, rfl⟩
    next hge => exact .inr ⟨Nat.not_lt.mp hge, rfl⟩

/-- **C18**, palette mapper: `mapper_spec` for iteration orders given as permutations of the
    entry list. -/
theorem mapper_spec_perm (pal : Palette) (order : List (Nat × PalEntry)) (opts : MappingOptions)
    (hperm : order.Perm pal.entries) (r g b alpha : UInt8) :
    (alpha ≠ 255 →
      (PaletteMapper.new order opts).lookup r g b alpha = opts.transparent.getD opts.failure) ∧
    (alpha = 255 → (∀ p ∈ pal.entries, ¬ SameRGB p.2 r g b) →
      (PaletteMapper.new order opts).lookup r g b alpha = opts.failure) ∧
    (alpha = 255 → (∃ p ∈ pal.entries, SameRGB p.2 r g b) →
      (∀ p ∈ pal.entries, SameRGB p.2 r g b → p.1 < 256) →
      ∃ p ∈ pal.entries, SameRGB p.2 r g b ∧ p.1 < 256 ∧
        (PaletteMapper.new order opts).lookup r g b alpha = UInt8.ofNat p.1 ∧
        ((PaletteMapper.new order opts).lookup r g b alpha).toNat = p.1) ∧
    (alpha = 255 → (∃ p ∈ pal.entries, SameRGB p.2 r g b) →
      ∃ p ∈ pal.entries, SameRGB p.2 r g b ∧
        ((p.1 < 256 ∧ (PaletteMapper.new order opts).lookup r g b alpha = UInt8.ofNat p.1) ∨
         (256 ≤ p.1 ∧ (PaletteMapper.new order opts).lookup r g b alpha = opts.failure))) :=
  mapper_spec pal order opts (fun _ => hperm.mem_iff) r g b alpha

theorem color_of_mem (pal : Palette) (hnodup : (pal.entries.map (·.1)).Nodup)
    (p : Nat × PalEntry) (hp : p ∈ pal.entries) : pal.color p.1 = some p.2 := by
  rw [Palette.color, assocGet?, find?_key_of_mem (·.1) hnodup hp]
  rfl

/-- **C18**, palette mapper, clause (c) as stated informally: for an opaque colour all of whose
    palette occurrences are at indices below 256, the palette entry AT THE RETURNED INDEX has
    that same RGB (keys distinct, as in every palette built with `Palette.insert`). -/
theorem mapper_spec_entry (pal : Palette) (order : List (Nat × PalEntry)) (opts : MappingOptions)
    (horder : ∀ p, p ∈ order ↔ p ∈ pal.entries)
    (hnodup : (pal.entries.map (·.1)).Nodup) (r g b : UInt8)
    (hsome : ∃ p ∈ pal.entries, SameRGB p.2 r g b)
    (hlow : ∀ p ∈ pal.entries, SameRGB p.2 r g b → p.1 < 256) :
    ∃ e, pal.color ((PaletteMapper.new order opts).lookup r g b 255).toNat = some e ∧
      SameRGB e r g b := by
  obtain ⟨p, hp, hrgb, _, _, hnat⟩ :=
    (mapper_spec pal order opts horder r g b 255).2.2.1 rfl hsome hlow
  exact ⟨p.2, hnat ▸ color_of_mem pal hnodup p hp, hrgb⟩

/-- (c) in terms of entry ids, for palettes whose keys are the entry ids (the invariant of
    `Palette.insert`). -/
theorem mapper_spec_id (pal : Palette) (order : List (Nat × PalEntry)) (opts : MappingOptions)
    (horder : ∀ p, p ∈ order ↔ p ∈ pal.entries)
    (hid : ∀ p ∈ pal.entries, p.1 = p.2.id) (r g b : UInt8)
    (hsome : ∃ p ∈ pal.entries, SameRGB p.2 r g b)
    (hlow : ∀ p ∈ pal.entries, SameRGB p.2 r g b → p.2.id < 256) :
    ∃ p ∈ pal.entries, SameRGB p.2 r g b ∧ p.2.id < 256 ∧
      (PaletteMapper.new order opts).lookup r g b 255 = UInt8.ofNat p.2.id := by
  obtain ⟨p, hp, hrgb, hlt, hval, _⟩ :=
    (mapper_spec pal order opts horder r g b 255).2.2.1 rfl hsome
      (fun p hp h => hid p hp ▸ hlow p hp h)
  exact ⟨p, hp, hrgb, hid p hp ▸ hlt, hid p hp ▸ hval⟩

/-- **C18**, indexed-image conversion: the dimensions, and one `lookup` result per pixel in
    buffer (= row-major) order.  No assumption on the image. -/
theorem toIndexed_spec (img : Image) (pm : PaletteMapper) :
    (toIndexedImage img pm).1 = (img.w, img.h) ∧
    (toIndexedImage img pm).2.size = min (img.w * img.h) img.px.size ∧
    ∀ i, i < img.w * img.h →
      (toIndexedImage img pm).2[i]? =
        (img.px[i]?).map (fun c => pm.lookup c.r c.g c.b c.a) := by
  refine ⟨rfl, ?_, fun i hi => ?_⟩
  · simp only [toIndexedImage, Array.size_map, Array.size_extract, Nat.sub_zero]
  · simp only [toIndexedImage, Array.getElem?_map, Array.getElem?_extract, Nat.zero_add,
      Nat.sub_zero]
    split
    · rfl
    · rw [Array.getElem?_eq_none (by omega)]

/-- `toIndexed_spec` on a well-formed image: `w * h` indices, the one at `y * w + x` is the
    `lookup` of pixel `(x, y)`; equivalently the `i`-th output is the `lookup` of the `i`-th
    pixel for all `i < img.px.size`. -/
theorem toIndexed_spec_wf (img : Image) (pm : PaletteMapper)
    (hsz : img.px.size = img.w * img.h) :
    (toIndexedImage img pm).1 = (img.w, img.h) ∧
    (toIndexedImage img pm).2.size = img.w * img.h ∧
    (∀ i (hi : i < img.px.size),
      (toIndexedImage img pm).2[i]? =
        some (pm.lookup img.px[i].r img.px[i].g img.px[i].b img.px[i].a)) ∧
    (∀ x y, x < img.w → y < img.h →
      (toIndexedImage img pm).2[y * img.w + x]? =
        (img.px[y * img.w + x]?).map (fun c => pm.lookup c.r c.g c.b c.a)) := by
  obtain ⟨h1, h2, h3⟩ := toIndexed_spec img pm
  refine ⟨h1, by omega, fun i hi => ?_, fun x y hx hy => h3 _ ?_⟩
  · rw [h3 i (by omega), Array.getElem?_eq_getElem hi]
    rfl
  · have := row_bound (w := img.w) hy
    omega

private def p0 : RGBA := ⟨1, 2, 3, 255⟩
private def p1 : RGBA := ⟨4, 5, 6, 7⟩

/-- a 2 x 1 image satisfies the hypotheses of `extrude_spec` … -/
example : ∃ out, extrudeBorder ⟨2, 1, #[p0, p1]⟩ = .ok out ∧ out.w = 4 ∧ out.h = 3 :=
  let ⟨out, h, hw, hh, _⟩ := extrude_spec ⟨2, 1, #[p0, p1]⟩ rfl (by decide) (by decide)
  ⟨out, h, hw, hh⟩

/-- … and this is its extrusion -/
example : (extrudeBorder ⟨2, 1, #[p0, p1]⟩).map (fun o => (o.w, o.h, o.px.toList)) =
    .ok (4, 3, [p0, p0, p1, p1, p0, p0, p1, p1, p0, p0, p1, p1]) := by decide

example : extrudeBorder ⟨0, 1, #[]⟩ = .panic .sliceRange := extrude_degenerate _ (Or.inl rfl)

private def red : RGBA := ⟨255, 0, 0, 255⟩
private def blue : RGBA := ⟨0, 0, 255, 255⟩
/-- a palette with a duplicated colour (indices 0 and 2) -/
private def pal3 : Palette :=
  ((Palette.empty.insert ⟨0, red, none⟩).insert ⟨1, blue, none⟩).insert ⟨2, red, none⟩
private def opts0 : MappingOptions := ⟨9, some 7⟩

example : pal3.entries = [(2, ⟨2, red, none⟩), (1, ⟨1, blue, none⟩), (0, ⟨0, red, none⟩)] := by
  decide

/-- the result depends on the iteration order, and both results are entries with that RGB -/
example : (PaletteMapper.new pal3.entries opts0).lookup 255 0 0 255 = 0 := by decide
example : (PaletteMapper.new pal3.entries.reverse opts0).lookup 255 0 0 255 = 2 := by decide
-- a colour that occurs once; an absent colour (failure index 9); a pixel that is not opaque
-- (transparent index 7, or the failure index when the options give none)
example : (PaletteMapper.new pal3.entries opts0).lookup 0 0 255 255 = 1 := by decide
example : (PaletteMapper.new pal3.entries opts0).lookup 0 255 0 255 = 9 := by decide
example : (PaletteMapper.new pal3.entries opts0).lookup 255 0 0 254 = 7 := by decide
example : (PaletteMapper.new pal3.entries ⟨9, none⟩).lookup 255 0 0 0 = 9 := by decide

/-- the hypotheses of `mapper_spec_entry` are satisfiable (for the reversed order) -/
example : ∃ e, pal3.color
    ((PaletteMapper.new pal3.entries.reverse opts0).lookup 255 0 0 255).toNat = some e ∧
    SameRGB e 255 0 0 :=
  mapper_spec_entry pal3 pal3.entries.reverse opts0 (fun _ => List.mem_reverse) (by decide)
    255 0 0 ⟨(0, ⟨0, red, none⟩), by decide, by decide⟩ (by decide)

/-- an entry at an index ≥ 256 maps to the failure index -/
example : (PaletteMapper.new [(300, ⟨300, red, none⟩)] opts0).lookup 255 0 0 255 = 9 := by decide

example : toIndexedImage ⟨2, 1, #[red, p1]⟩ (PaletteMapper.new pal3.entries opts0)
    = ((2, 1), #[0, 7]) := by
  -- `decide` cannot run `Array.extract`: as list functions first
  simp only [toIndexedImage, List.extract_toArray, List.extract_eq_take_drop, List.map_toArray]
  decide

end Ase.Proofs.C18
