import AseProofs.Lemmas.AttachFacts
import AseProofs.Lemmas.AttachFrames
/-
  C10  User-data records are attached to the entity whose chunk most recently preceded them.

  Spec (`Ase/Spec/Attach.lean`): a chunk sequence is a list of events; `attachTarget evs i` is the
  entity of the nearest context-setting event before position `i` (layer / cel / slice / sprite
  after a legacy palette chunk / the successive tags after a tags chunk), `attached evs t` the
  record of the last position whose target is `t`.  The theorems relate the state the model
  reaches - over chunk lists, over frames, from `parseFrames` on bytes - to that spec.
-/
namespace Ase.Proofs.C10
open Ase Ase.Spec
open Ase.Proofs.C05  -- the `Post` calculus (`Lemmas/Post.lean`), for `flags_text_colour_decode`

/-- The user-data slots of `pi` are the declarative attachments of the event list `evs`
    (and the context is the declarative target of the next position). -/
structure Attached (evs : List Ev) (pi : ParseInfo) : Prop where
  ctx : pi.ctx = (attachTarget evs evs.length).map toCtx
  nlayers : pi.layers.size = evs.countP Ev.isLayer
  layers : ∀ k (h : k < pi.layers.size), pi.layers[k].userData = attached evs (.layer k)
  nslices : pi.slices.size = evs.countP Ev.isSlice
  slices : ∀ k (h : k < pi.slices.size), pi.slices[k].userData = attached evs (.slice k)
  sprite : pi.spriteUserData = attached evs .sprite
  cels : ∀ f l, ((pi.cels[f]?).bind (FrameCels.get? l)).map (·.userData) =
    if Ev.cel f l ∈ evs then some (attached evs (.cel f l)) else none
  /-- the tags are those of the LAST tags event (position `j`); what was recorded before `j` went
      to tags that are gone, hence `attachedSince` -/
  tags : match lastTags evs with
    | none => pi.tags = none
    | some (j, n) => ∃ ts, pi.tags = some ts ∧ ts.size = n ∧
        ∀ k (h : k < ts.size), ts[k].userData = attachedSince evs j (.tag k)

theorem attached_of_inv {nf : Nat} {evs : List Ev} {pi : ParseInfo} (h : Inv nf evs (proj pi)) :
    Attached evs pi := by
  obtain ⟨hctx, _, hnl, hns, hl, hsl, hsp, hc, _, htg⟩ := h
  refine ⟨hctx, by simpa [proj] using hnl, ?_, by simpa [proj] using hns, ?_, hsp, hc, ?_⟩
  · intro k hk
    simpa [proj, hk] using hl k (by simpa [proj] using hk)
  · intro k hk
    simpa [proj, hk] using hsl k (by simpa [proj] using hk)
  · cases hlt : lastTags evs with
    | none => rw [hlt] at htg; exact Option.map_eq_none_iff.mp htg
    | some p =>
        rw [hlt] at htg
        obtain ⟨ts, h1, h2, h3⟩ := htg
        obtain ⟨arr, ha, rfl⟩ := Option.map_eq_some_iff.mp h1
        have h2 : arr.size = p.2 := by simpa using h2
        exact ⟨arr, ha, h2, fun k hk => by simpa [hk] using h3 k (h2 ▸ hk)⟩

/-- **C10 (context)**.  After the abstract machine has processed the first `i` events, its
    context is exactly the declarative "nearest preceding context-setting event" of position `i`
    (with the tag index = number of records since the tags event): so the record at position `i`
    goes to `attachTarget evs i`. -/
theorem ctx_spec (nf : Nat) (evs : List Ev) (i : Nat) (hi : i ≤ evs.length) (s : AState)
    (h : absRun (AState.init nf) (evs.take i) = .ok s) :
    s.ctx = (attachTarget evs i).map toCtx := by
  rw [attachTarget_take hi]
  exact (inv_run nf _ s h).ctx

/-- **C10**: the position `attachTarget` is computed from is the nearest preceding
    context-setting event. -/
theorem lastCtx_spec (evs : List Ev) (i j : Nat) :
    lastCtx evs i = some j ↔
      j < i ∧ ctxAt evs j = true ∧ ∀ j', j < j' → j' < i → ctxAt evs j' = false :=
  find_down_iff

/-- the model level: the context of the `ParseInfo` reached by a successful run over a chunk
    list (started in the initial state) is the declarative target for the next position. -/
theorem ctx_spec_model {inflate : Inflate} {m : Profile} {fmt : PixelFormat} {frame nf : Nat}
    {t : UInt16} {cs : List Chunk} {pi : ParseInfo}
    (h : processChunks inflate m fmt frame (ParseInfo.new nf t) cs = .ok pi) :
    ∃ evs, All₂ (ChunkEv inflate m fmt frame) cs evs ∧
      pi.ctx = (attachTarget evs evs.length).map toCtx := by
  obtain ⟨evs, hevs, hrun⟩ := processChunks_sim cs _ pi h
  rw [proj_new] at hrun
  exact ⟨evs, hevs, (inv_run nf evs _ hrun).ctx⟩

/-- C10 on the abstract machine: for every event sequence satisfying the side conditions of the
    quantifier, the run succeeds and the final state is the declarative attachment. -/
theorem userData_spec_abs {nf : Nat} {evs : List Ev} (h : AttachWF nf evs) :
    ∃ s, absRun (AState.init nf) evs = .ok s ∧ Inv nf evs s := by
  obtain ⟨s, hs⟩ := run_ok nf evs h.hasTarget h.tagsBounded h.celFrames h.celsDistinct
  exact ⟨s, hs, inv_run nf evs s hs⟩

/-- C10, soundness without side conditions: whenever the model's run over the frames' chunk lists
    succeeds, every entity reports exactly its declarative attachment w.r.t. the chunks' events. -/
theorem userData_spec_sound {inflate : Inflate} {m : Profile} {fmt : PixelFormat} {nf : Nat}
    {t : UInt16} {fs : List (UInt16 × List Chunk)} {pi : ParseInfo}
    (h : runFrames inflate m fmt 0 (ParseInfo.new nf t) fs = .ok pi) :
    ∃ evss, FramesRel (ChunkEv inflate m fmt) 0 fs evss ∧ Attached evss.flatten pi := by
  obtain ⟨evss, hrel, hrun⟩ := runFrames_sim fs 0 _ pi h
  rw [proj_new] at hrun
  exact ⟨evss, hrel, attached_of_inv (inv_run nf _ _ hrun)⟩

/-- **C10 (`userData_spec`)**: for all frames' chunk lists whose chunks decode to the events
    `evss`, if the event sequence satisfies the side conditions `AttachWF` (every record has a
    preceding attachable entity, at most `n` records follow `tags n`, cels are distinct and in
    range), then the model's state machine succeeds and in the final state every layer, slice,
    cel and the sprite report their `attached` record, and tag `k` of the last tags event the
    record attached to `tag k` after that event.  The field `noDouble` of `AttachWF` (no entity
    receives two records) is not used here (with two records the later one is reported); only
    `record_reported_by_target_only` needs it. -/
theorem userData_spec {inflate : Inflate} {m : Profile} {fmt : PixelFormat} {nf : Nat}
    {t : UInt16} {fs : List (UInt16 × List Chunk)} {evss : List (List Ev)}
    (hdec : FramesRel (DecodesAs inflate m fmt) 0 fs evss) (hwf : AttachWF nf evss.flatten) :
    ∃ pi, runFrames inflate m fmt 0 (ParseInfo.new nf t) fs = .ok pi ∧
      Attached evss.flatten pi := by
  obtain ⟨s, hs, hinv⟩ := userData_spec_abs hwf
  have hc := runFrames_complete fs evss 0 (ParseInfo.new nf t) hdec
  rw [proj_new, hs] at hc
  obtain ⟨pi, hr, hpi⟩ := Res.map_eq_ok hc
  exact ⟨pi, hr, attached_of_inv (hpi ▸ hinv)⟩

/-- with a single tags event, tag `k` reports `attached evs (.tag k)` -/
theorem userData_spec_tags {evs : List Ev} {pi : ParseInfo} (h : Attached evs pi)
    (hone : evs.countP isTags ≤ 1) {j n : Nat} (hlt : lastTags evs = some (j, n)) :
    ∃ ts, pi.tags = some ts ∧ ts.size = n ∧
      ∀ k (hk : k < ts.size), ts[k].userData = attached evs (.tag k) := by
  have htg := h.tags
  rw [hlt] at htg
  obtain ⟨ts, h1, h2, h3⟩ := htg
  exact ⟨ts, h1, h2, fun k hk => (h3 k hk).trans (attachedSince_lastTags_eq evs hone j n hlt k)⟩

/-- the same from bytes: a successful `parseFrames` (the frame loop of `parseFile`) ends in a
    state whose entities report the declarative attachments of the events of the chunks read -/
theorem userData_spec_parse {σ : Type} (S : Src σ) {inflate : Inflate} {m : Profile}
    {fmt : PixelFormat} {n : Nat} {t : UInt16} {pi : ParseInfo} {s s' : σ}
    (h : parseFrames S inflate m fmt n 0 (ParseInfo.new n t) s = .ok (pi, s')) :
    ∃ fs evss, fs.length = n ∧ FramesRel (ChunkEv inflate m fmt) 0 fs evss ∧
      Attached evss.flatten pi := by
  obtain ⟨fs, hlen, hrun⟩ := parseFrames_runFrames S n 0 _ pi s s' h
  obtain ⟨evss, hrel, hatt⟩ := userData_spec_sound hrun
  exact ⟨fs, evss, hlen, hrel, hatt⟩

/-- **C10** ("and to no other entity"): when no entity receives two records, entity `t` reports
    `u` iff some record `u` has target `t` (and `attachTarget` assigns each position one target). -/
theorem record_reported_by_target_only {evs : List Ev} (hnd : NoDouble evs) {t : Target}
    {u : UserData} :
    attached evs t = some u ↔ ∃ i, evs[i]? = some (.userData u) ∧ attachTarget evs i = some t := by
  refine ⟨fun h => ?_, fun ⟨i, h1, h2⟩ => attached_complete hnd h1 h2⟩
  obtain ⟨i, _, h1, h2⟩ := attached_sound h
  exact ⟨i, h1, h2⟩

/-- **C10**: an entity that is the target of no record reports none -/
theorem unattached_none {evs : List Ev} {t : Target}
    (h : ∀ i u, evs[i]? = some (.userData u) → attachTarget evs i ≠ some t) :
    attached evs t = none :=
  attachedSince_none_of_no_record h

/-- what the cel clause of `Attached` / `SpriteAttached` says of a cel that is there -/
theorem cel_reports {P} {cels : Array (FrameCels P)} {evs : List Ev} {f l : Nat}
    {row : FrameCels P} {c : RawCel P}
    (h : ((cels[f]?).bind (FrameCels.get? l)).map (·.userData) =
      if Ev.cel f l ∈ evs then some (attached evs (.cel f l)) else none)
    (hrow : cels[f]? = some row) (hget : FrameCels.get? l row = some c) :
    c.userData = attached evs (.cel f l) := by
  rw [hrow, Option.bind_some, hget, Option.map_some] at h
  split at h
  · exact Option.some.inj h
  · cases h

/-- the model level, for each kind of entity -/
theorem unattached_none_model {evs : List Ev} {pi : ParseInfo} (h : Attached evs pi) :
    (∀ k (hk : k < pi.layers.size),
      (∀ i u, evs[i]? = some (.userData u) → attachTarget evs i ≠ some (.layer k)) →
      pi.layers[k].userData = none) ∧
    (∀ k (hk : k < pi.slices.size),
      (∀ i u, evs[i]? = some (.userData u) → attachTarget evs i ≠ some (.slice k)) →
      pi.slices[k].userData = none) ∧
    ((∀ i u, evs[i]? = some (.userData u) → attachTarget evs i ≠ some .sprite) →
      pi.spriteUserData = none) ∧
    (∀ f l row c, pi.cels[f]? = some row → FrameCels.get? l row = some c →
      (∀ i u, evs[i]? = some (.userData u) → attachTarget evs i ≠ some (.cel f l)) →
      c.userData = none) ∧
    (∀ ts k (hk : k < ts.size), pi.tags = some ts →
      (∀ i u, evs[i]? = some (.userData u) → attachTarget evs i ≠ some (.tag k)) →
      ts[k].userData = none) := by
  refine ⟨?_, ?_, ?_, ?_, ?_⟩
  · intro k hk hno
    rw [h.layers k hk]; exact unattached_none hno
  · intro k hk hno
    rw [h.slices k hk]; exact unattached_none hno
  · intro hno
    rw [h.sprite]; exact unattached_none hno
  · intro f l row c hrow hget hno
    rw [cel_reports (h.cels f l) hrow hget]; exact unattached_none hno
  · intro ts k hk hts hno
    have htg := h.tags
    split at htg
    · cases htg.symm.trans hts
    · obtain ⟨ts', h1, _, h3⟩ := htg
      cases h1.symm.trans hts
      exact (h3 k hk).trans (attachedSince_none_of_no_record hno)

/-- **C10**: inserting any number of `other` events (new palette, colour profile, external
    files, tileset, ignorable chunks, tags chunks outside frame 0) at any position changes no
    entity's attachment. -/
theorem other_transparent (evs : List Ev) (k n : Nat) (t : Target) :
    attached (insertOther evs k n) t = attached evs t := by
  rw [← attached_noOther, noOther_insertOther, attached_noOther]

/-- Inserting `n` `other` events at position `k` leaves every position its target; the positions
    from `k` on shift by `n`. -/
theorem other_transparent_target (evs : List Ev) (k n i : Nat) (hk : k ≤ evs.length)
    (hi : i ≤ evs.length) :
    attachTarget (insertOther evs k n) (if i < k then i else i + n) = attachTarget evs i := by
  split
  · exact attachTarget_insertOther_before evs k n i hk (by omega)
  · exact attachTarget_insertOther_after evs k n i (by omega) hi

/-- The abstract machine does not see inserted `other` events: the run is the same. -/
theorem other_transparent_run (s : AState) (evs : List Ev) (k n : Nat) :
    absRun s (insertOther evs k n) = absRun s evs := by
  have hrep : ∀ (s : AState) (b : List Ev),
      absRun s (List.replicate n Ev.other ++ b) = absRun s b := by
    intro s b
    induction n with
    | zero => rfl
    | succ n ih => exact ih  -- the step on `other` returns the state, by computation
  rw [insertOther, List.append_assoc, absRun_append]
  simp only [hrep]
  rw [← absRun_append, List.take_append_drop]

/-- the model: a chunk whose event is `other` leaves the attachment state of `ParseInfo`
    (all user-data slots and the context) untouched -/
theorem other_chunk_transparent {inflate : Inflate} {m : Profile} {fmt : PixelFormat}
    {frame : Nat} {pi : ParseInfo} {c : Chunk}
    (h : decodeEv inflate m fmt frame pi.palette.isNone c = .ok .other) :
    ∃ pi', processChunk inflate m fmt frame pi c = .ok pi' ∧ proj pi' = proj pi := by
  have hs := processChunk_sim inflate m fmt frame pi c
  rw [h] at hs
  exact Res.map_eq_ok hs

/-- **C10**: text and colour are each reported only when their flag is set, on the decoder side
    and for EVERY byte string: whenever the user-data decoder succeeds, a text is reported iff
    bit 0 of the flags word (the first four bytes) is set, a colour iff bit 1 is set.
    (Encoder side: `flags_text_colour` in `Props/C10Flags.lean`.) -/
theorem flags_text_colour_decode (data : Bytes) (ud : UserData)
    (h : runChunk parseUserDataChunk data = .ok ud) :
    ∃ flags rest, readU32 bytesSrc data = .ok (flags, rest) ∧
      (ud.text.isSome = true ↔ flags.toNat % 2 = 1) ∧
      (ud.color.isSome = true ↔ flags.toNat / 2 % 2 = 1) := by
  obtain ⟨s', hr⟩ := runChunk_eq_ok h
  unfold parseUserDataChunk at hr
  obtain ⟨flags, rest, hf, hr⟩ := RdS.bind_eq_ok hr
  refine ⟨flags, rest, hf, ?_⟩
  -- the rest of the decoder in the `Post` calculus: the text iff bit 0, then the colour iff bit 1
  refine Post_ite_bind (P := fun t : Option Bytes => t.isSome = true ↔ flags.toNat % 2 = 1)
    (Q := fun ud : UserData => (ud.text.isSome = true ↔ flags.toNat % 2 = 1) ∧
      (ud.color.isSome = true ↔ flags.toNat / 2 % 2 = 1)) _ ?_ ?_ (fun text ht => ?_) rest ud s' hr
  · exact fun h0 => Post_bind_any fun _ => Post_pure (by simpa using h0)
  · exact fun h0 => Post_pure (by simpa using h0)
  refine Post_ite_bind (P := fun c : Option RGBA => c.isSome = true ↔ flags.toNat / 2 % 2 = 1) _
    ?_ ?_ fun color hc => Post_pure ⟨ht, hc⟩
  · exact fun h1 => Post_bind_any fun _ => Post_bind_any fun _ => Post_bind_any fun _ =>
      Post_bind_any fun _ => Post_pure (by simpa using h1)
  · exact fun h1 => Post_pure (by simpa using h1)

def u1 : UserData := ⟨some [0x61], none⟩
def u2 : UserData := ⟨none, some ⟨1, 2, 3, 4⟩⟩
def u3 : UserData := ⟨some [], some ⟨0, 0, 0, 0⟩⟩
def u4 : UserData := ⟨none, none⟩

def demo : List Ev :=
  [.layer, .other, .userData u1, .tags 2, .userData u2, .userData u3, .cel 0 0, .userData u4]

/- The spec evaluated on `demo`: the side conditions hold; the target of every position; what
   the entities report; `demo` has one tags event (the hypothesis of `userData_spec_tags`); two
   sequences the side conditions exclude (a third record after `tags 2`, a record before any
   entity); the final state of the abstract machine. -/
example : AttachWF 1 demo := by decide
example : (List.range 8).map (attachTarget demo) =
    [none, some (.layer 0), some (.layer 0), some (.layer 0), some (.tag 0), some (.tag 1),
     some (.tag 2), some (.cel 0 0)] := by decide
example : attached demo (.layer 0) = some u1 := by decide
example : attached demo (.tag 0) = some u2 := by decide
example : attached demo (.tag 1) = some u3 := by decide
example : attached demo (.cel 0 0) = some u4 := by decide
example : attached demo .sprite = none := by decide
example : attached demo (.layer 1) = none := by decide
example : demo.countP isTags ≤ 1 := by decide
example : ¬ AttachWF 1 [.tags 2, .userData u1, .userData u2, .userData u3] := by decide
example : ¬ AttachWF 1 [.other, .userData u1] := by decide
example : ∃ s, absRun (AState.init 1) demo = .ok s ∧ s.layers = [some u1] ∧
    s.tags = some [some u2, some u3] ∧ s.cels 0 0 = some (some u4) ∧ s.sprite = none ∧
    s.ctx = some (.cel 0 0) := ⟨_, rfl, rfl, rfl, rfl, rfl, rfl⟩

/-! non-vacuity of `userData_spec`: concrete chunks (a layer chunk, a linked cel chunk for layer 0,
    a mask chunk, a record with a colour) that decode to the events whatever the palette state -/

def demoInflate : Inflate := fun _ => .err .invalid
def demoLayerBytes : Bytes := List.replicate 18 0
def demoCelBytes : Bytes := [0, 0, 0, 0, 0, 0, 255, 1, 0, 0, 0, 0, 0, 0, 0, 0, 0, 0]
def demoUdBytes : Bytes := [2, 0, 0, 0, 1, 2, 3, 4]
def demoFrames : List (UInt16 × List Chunk) :=
  [(100, [⟨.layer, demoLayerBytes⟩, ⟨.cel, demoCelBytes⟩, ⟨.mask, []⟩, ⟨.userData, demoUdBytes⟩])]
def demoEvss : List (List Ev) :=
  [[.layer, .cel 0 0, .other, .userData ⟨none, some ⟨1, 2, 3, 4⟩⟩]]

theorem demo_decodes :
    FramesRel (DecodesAs demoInflate Profile.release .rgba) 0 demoFrames demoEvss := by
  refine ⟨?_, trivial⟩
  refine .cons ?_ (.cons ?_ (.cons ?_ (.cons ?_ .nil))) <;> intro b <;> rfl

example : AttachWF 1 demoEvss.flatten := by decide

example : ∃ pi, runFrames demoInflate Profile.release .rgba 0 (ParseInfo.new 1 100) demoFrames
      = .ok pi ∧ Attached demoEvss.flatten pi ∧
    attached demoEvss.flatten (.cel 0 0) = some ⟨none, some ⟨1, 2, 3, 4⟩⟩ ∧
    attached demoEvss.flatten (.layer 0) = none := by
  obtain ⟨pi, h1, h2⟩ := userData_spec (nf := 1) (t := 100) demo_decodes (by decide)
  exact ⟨pi, h1, h2, by decide, by decide⟩

end Ase.Proofs.C10
