import AseProofs.Lemmas.Paint
import AseProofs.Lemmas.Assoc
/-
  C02  Frame image equals bottom-to-top composition of visible layers.

  Here: the composition loop as a fold over the frame's cel table, and that the table does not
  depend on the order of the cel chunks; neither looks into a cel.
-/
namespace Ase.Proofs.C02
open Ase Ase.Proofs

variable {F : Type} (ops : FOps F) (m : Profile)

def composeSpec (s : Sprite) : FrameCels Pixels → Image → Res Image
  | [], img => .ok img
  | (l, c) :: rest, img =>
      match s.isVisible l with
      | .ok true =>
          match s.writeCel ops m img c with
          | .ok img' => composeSpec s rest img'
          | .err e => .err e
          | .panic p => .panic p
      | .ok false => composeSpec s rest img
      | .err e => .err e
      | .panic p => .panic p

/-- the induction behind `frameImage_compose`: a row whose keys are all existing layers never
    takes the loop's error branch -/
theorem loop_eq_spec (s : Sprite) : ∀ (row : FrameCels Pixels),
    (∀ p ∈ row, p.1 < s.numLayers) →
      ∀ img, s.frameImageLoop ops m row img = composeSpec ops m s row img := by
  intro row
  induction row with
  | nil => intro _ _; rfl
  | cons hd tl ih =>
      intro hlayers img
      obtain ⟨l, c⟩ := hd
      rw [List.forall_mem_cons] at hlayers
      simp only [Sprite.frameImageLoop, if_neg (Nat.not_le.mpr hlayers.1), composeSpec,
        ih hlayers.2]
      cases s.isVisible l with
      | ok b => cases b <;> rfl
      | err e => rfl
      | panic p => rfl

/-- when every cel of the frame lies on an existing layer, the frame image is `composeSpec` on
    the frame's row from the transparent canvas: in row order, "`writeCel` this cel if its layer
    is visible", with `writeCel` left as it is -/
theorem frameImage_compose (s : Sprite) (f : Nat) (row : FrameCels Pixels)
    (hrow : s.cels[f]? = some row) (hlayers : ∀ p ∈ row, p.1 < s.numLayers) :
    s.frameImage ops m f = composeSpec ops m s row s.canvas := by
  simp only [Sprite.frameImage, hrow]
  exact loop_eq_spec ops m s row hlayers s.canvas

/-- **C02** (uncovered pixels): a frame without cels is the transparent canvas, every pixel
    fully transparent; uncovered positions of other frames: `frameImage_spec`, whose step keeps
    the accumulator -/
theorem uncovered_transparent (s : Sprite) (f : Nat) (hrow : s.cels[f]? = some []) (x y : Nat)
    (hx : x < s.width.toNat) (hy : y < s.height.toNat) :
    ∃ img, s.frameImage ops m f = .ok img ∧ img.get x y = .ok RGBA.zero :=
  ⟨s.canvas, by simp only [Sprite.frameImage, hrow, Sprite.frameImageLoop], canvas_get s hx hy⟩

/-- **C02** (storage order): inserting two cels with different layer ids into a frame's table
    commutes (`FrameCels.insert_comm` under the property's name) -/
theorem insert_comm {P} (k1 k2 : Nat) (c1 c2 : RawCel P) (hne : k1 ≠ k2) : ∀ (l : FrameCels P),
    FrameCels.insert k1 c1 (FrameCels.insert k2 c2 l) = FrameCels.insert k2 c2 (FrameCels.insert k1 c1 l) :=
  FrameCels.insert_comm k1 k2 c1 c2 hne

/-- the table built from a list of (layer, cel) pairs, in storage order -/
def tableOf {P} (cels : List (Nat × RawCel P)) : FrameCels P :=
  cels.foldl (fun row p => FrameCels.insert p.1 p.2 row) []

/-- **C02** (storage order): two orders of the same cels (distinct layers) give the same
    `tableOf`, the fold of the `FrameCels.insert` by which `ParseInfo.addCel` extends a row; for
    runs of cel items, their checks included: `runCels_perm_blind` (`Lemmas/CtxBlind`) -/
theorem celOrder_irrelevant {P} (xs ys : List (Nat × RawCel P)) (hperm : xs.Perm ys)
    (hdistinct : xs.Pairwise (fun a b => a.1 ≠ b.1)) : tableOf xs = tableOf ys := by
  unfold tableOf
  apply List.Perm.foldl_eq' hperm
  intro x hx y hy z
  by_cases hxy : x.1 = y.1
  · have : x = y := eq_of_key_eq xs hdistinct x hx y hy hxy
    subst this
    rfl
  · exact (insert_comm y.1 x.1 y.2 x.2 (fun h => hxy h.symm) z)

end Ase.Proofs.C02
