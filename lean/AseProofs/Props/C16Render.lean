import AseProofs.Props.C03
import AseProofs.Lemmas.RenderLoops
/-
  C16, rendering: the composited images do not depend on the build profile for sprites whose
  layers all use one of the 14 integer blend modes.  The renderer uses the profile only through
  the blend function (`writeRawRows_eq`, `writeTiles_eq`), and that is the same in both
  profiles for these modes (`blend_profile_irrelevant_int`).
-/
namespace Ase.Proofs.C16
open Ase Ase.Proofs Ase.Sprite

/-- **C16 (integer blend modes)**: the 14 integer blend modes compute the same pixel in both
    profiles, being the profile-free reference function of C03 -/
theorem blend_profile_irrelevant_int {F : Type} (ops : FOps F) (m m' : Profile) (mode : Nat)
    (hm : C17.intMode mode = true) (b s : RGBA) (o : UInt8) :
    Blend.blend ops m mode b s o = Blend.blend ops m' mode b s o := by
  rw [C03.blend_eq_ref_int ops m mode hm, C03.blend_eq_ref_int ops m' mode hm]

variable {F : Type} (ops : FOps F) (m m' : Profile)

/-- a single cel only needs *its own* layer (and, for a linked cel, the same layer) to use an
    integer mode: the renderer uses the profile only through the blend function of that layer -/
theorem writeCelDirect_profile_layer (s : Sprite) (img : Image) (c : RawCel Pixels)
    (hl : ∀ l, s.layers[c.data.layerIndex.toNat]? = some l → C17.intMode l.blendMode = true) :
    writeCelDirect ops m s img c = writeCelDirect ops m' s img c := by
  unfold writeCelDirect
  cases h : s.layers[c.data.layerIndex.toNat]? with
  | none => rfl
  | some layer =>
      have hf := fun op old p => blend_profile_irrelevant_int ops m m' _ (hl layer h) old p op
      simp only [writeRawCel, writeTilemapCel, writeRawRows_eq ops m (hf _),
        writeRawRows_eq ops m' (fun _ _ => rfl), writeTiles_eq ops m (hf _),
        writeTiles_eq ops m' (fun _ _ => rfl)]

theorem writeCel_profile (s : Sprite)
    (hs : ∀ l ∈ s.layers, C17.intMode l.blendMode = true) (img : Image) (c : RawCel Pixels) :
    writeCel ops m s img c = writeCel ops m' s img c := by
  unfold writeCel
  simp only [writeCelDirect_profile_layer ops m m' s _ _
    (fun l h => hs l (Array.mem_of_getElem? h))]

theorem frameImageLoop_profile (s : Sprite)
    (hs : ∀ l ∈ s.layers, C17.intMode l.blendMode = true) :
    ∀ (row : FrameCels Pixels) (img : Image),
      frameImageLoop ops m s row img = frameImageLoop ops m' s row img := by
  intro row
  induction row with
  | nil => intro img; rfl
  | cons p rest ih =>
      intro img
      obtain ⟨layerId, c⟩ := p
      simp only [frameImageLoop, writeCel_profile ops m m' s hs, ih]

/-- `Frame::image` does not depend on the build profile for sprites whose layers use the
    14 integer blend modes: same image, same error, or the same panic site in both builds -/
theorem frameImage_profile_irrelevant (s : Sprite)
    (hs : ∀ l ∈ s.layers, C17.intMode l.blendMode = true) (f : Nat) :
    s.frameImage ops m f = s.frameImage ops m' f := by
  unfold frameImage
  simp only [frameImageLoop_profile ops m m' s hs]

/-- `Cel::image` does not depend on the build profile for sprites whose layers use the 14 integer
    blend modes -/
theorem celImage_profile_irrelevant (s : Sprite)
    (hs : ∀ l ∈ s.layers, C17.intMode l.blendMode = true) (f l : Nat) :
    s.celImage ops m f l = s.celImage ops m' f l := by
  unfold celImage
  simp only [writeCel_profile ops m m' s hs]

end Ase.Proofs.C16
