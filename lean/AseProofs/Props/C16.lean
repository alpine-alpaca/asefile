import Ase.Render
import AseProofs.Lemmas.OldPalette
import AseProofs.Lemmas.Assoc
/-
  C16  A loaded sprite is an immutable, thread-safe value; results are deterministic.

  In the model every accessor is a pure function of the `Sprite` value, so repetition, call order
  and sharing cannot matter by construction; that the Rust has no interior mutability or caches
  and is `Send + Sync` is for the correspondence check.  Proved here is what the model can still
  get wrong: dependence on the build profile (wrapping arithmetic, debug assertions) and on the
  insertion order of the hash-map backed collections.
-/
namespace Ase.Proofs.C16
open Ase Ase.Proofs

theorem processChunk_profile (inflate : Inflate) (m m' : Profile) (fmt : PixelFormat) (frame : Nat)
    (pi : ParseInfo) (c : Chunk) :
    processChunk inflate m fmt frame pi c = processChunk inflate m' fmt frame pi c := by
  unfold processChunk
  simp only [parseOldPaletteChunk_profile m m']

theorem processChunks_profile (inflate : Inflate) (m m' : Profile) (fmt : PixelFormat)
    (frame : Nat) :
    ∀ (cs : List Chunk) (pi : ParseInfo),
      processChunks inflate m fmt frame pi cs = processChunks inflate m' fmt frame pi cs := by
  intro cs
  induction cs with
  | nil => intro pi; rfl
  | cons c cs ih =>
      intro pi
      simp only [processChunks, processChunk_profile inflate m m']
      split
      · exact ih _
      · rfl
      · rfl

theorem parseFrame_profile {σ} (S : Src σ) (inflate : Inflate) (m m' : Profile) (fmt : PixelFormat)
    (frame : Nat) (pi : ParseInfo) :
    parseFrame S inflate m fmt frame pi = parseFrame S inflate m' fmt frame pi := by
  unfold parseFrame
  simp only [processChunks_profile inflate m m']

theorem parseFrames_profile {σ} (S : Src σ) (inflate : Inflate) (m m' : Profile)
    (fmt : PixelFormat) :
    ∀ (n frame : Nat) (pi : ParseInfo),
      parseFrames S inflate m fmt n frame pi = parseFrames S inflate m' fmt n frame pi := by
  intro n
  induction n with
  | zero => intro _ _; rfl
  | succ n ih =>
      intro frame pi
      simp only [parseFrames, parseFrame_profile S inflate m m']
      congr 1
      funext pi'
      exact ih _ _

/-- **C16 (loading)**: no result of loading depends on the build profile: optimised and unoptimised builds,
    with and without overflow checks, load every byte string to the same sprite or the same
    error (together with `C04.parse_total`: neither build panics) -/
theorem parse_profile_irrelevant (inflate : Inflate) (m m' : Profile) (bs : Bytes) :
    parse inflate m bs = parse inflate m' bs := by
  unfold parse parseFile
  simp only [parseFrames_profile bytesSrc inflate m m']

/-- **C16 (`Tileset::image`)**: the u32 product is the only profile-dependent operation; when it
    does not fit the checked profile panics and the release profile wraps -/
theorem tilesetImage_profile_irrelevant (m m' : Profile) (pal : Option Palette) (ts : Tileset Pixels)
    (hfit : ts.tileH.toNat * ts.tileCount.toNat < 4294967296) :
    ts.image m pal = ts.image m' pal := by
  simp only [Tileset.image, u32Mul, hfit, if_true]

/-- **C16 (map-backed collections)**: swapping the two outermost insertions, of distinct keys,
    changes no lookup (one swap; no statement about a permutation of many insertions is made) -/
theorem map_order_irrelevant {α} (k k1 k2 : Nat) (v1 v2 : α) (l : List (Nat × α)) (hne : k1 ≠ k2) :
    assocGet? k (assocInsert k1 v1 (assocInsert k2 v2 l)) =
      assocGet? k (assocInsert k2 v2 (assocInsert k1 v1 l)) := by
  simp only [assocGet?_insert]
  by_cases h1 : k1 = k
  · have h2 : ¬ k2 = k := fun h2 => hne (h1.trans h2.symm)
    simp only [if_pos h1, if_neg h2]
  · simp only [if_neg h1]

/-- a lookup after an insertion of its key reports the inserted value, whatever the collection
    held before -/
theorem map_last_insert_wins {α} (k : Nat) (v : α) (l : List (Nat × α)) :
    assocGet? k (assocInsert k v l) = some v := by
  rw [assocGet?_insert, if_pos rfl]

end Ase.Proofs.C16
