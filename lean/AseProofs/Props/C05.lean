import AseProofs.Props.C05Load
import AseProofs.Props.C06
import AseProofs.Props.C17
import AseProofs.Lemmas.ValidRender
import AseProofs.Props.C08
import AseProofs.Lemmas.RasterSpec
/-
  C05  A sprite that loads is fully usable: under `Valid s` every accessor of the public API
  returns `.ok` - never a panic, never an error - for all in-range arguments, and images have
  the documented dimensions.

  The only hypothesis besides `Valid`, for the two rendering entry points, is that the blend
  function never fails (`FloatTotal ops m`, or only the modes the sprite's layers use:
  `LayersTotal`).  It is a theorem for every profile without debug assertions and for the 14
  integer modes in both profiles; for the five floating-point modes in the checked profile it
  is a property of the floating-point parameter `ops`.
-/
namespace Ase.Proofs.C05
open Ase

theorem layersTotal_of_int {F : Type} (ops : FOps F) (m : Profile) (s : Sprite)
    (h : ∀ ld ∈ s.layers, C17.intMode ld.blendMode = true) : LayersTotal ops m s :=
  fun ld hld => C17.int_modes_total ops m ld.blendMode (h ld hld)

theorem pixelsToRgba_ok (pal : Option Palette) (px : Pixels) (h : PixelsOk pal px) :
    ∃ rgba, pixelsToRgba pal px = .ok rgba ∧ rgba.size = pxSize px := by
  cases px with
  | rgba px => exact ⟨px, rfl, rfl⟩
  | gray px => exact ⟨_, rfl, by simp [pxSize]⟩
  | indexed tci bg px =>
      obtain ⟨p, rfl, hall⟩ := h
      have hall' : ∀ i ∈ px.toList, (p.color i.toNat).isSome :=
        fun i hi => hall i (by simpa using hi)
      refine ⟨_, C06.indexed_conversion p tci bg px hall', ?_⟩
      rw [List.size_toArray, length_filterMap_of_isSome _ _ fun i hi => by
        rw [C06.indexedPixel, Option.isSome_map]; exact hall' i hi]
      simp [pxSize]

/-- **C05**: `Layer::is_visible` returns -/
theorem isVisible_ok (s : Sprite) (hv : Valid s) (i : Nat) (hi : i < s.numLayers) :
    ∃ b, s.isVisible i = .ok b := by
  obtain ⟨b, hb, _⟩ := C09.isVisible_iff s hv.parents_size hv.parents_lt i hi
  exact ⟨b, hb⟩

theorem row_of_frame (s : Sprite) (hv : Valid s) (f : Nat) (hf : f < s.numFrames.toNat) :
    ∃ row, s.cels[f]? = some row ∧ row ∈ s.cels := by
  have hlt : f < s.cels.size := by rw [hv.cels_size]; exact hf
  exact ⟨s.cels[f], by simp [hlt], Array.getElem_mem hlt⟩

/-- **C05**: `cel(frame, layer)` returns, for any layer index (the value is an `Option`) -/
theorem cel_ok (s : Sprite) (hv : Valid s) (f l : Nat) (hf : f < s.numFrames.toNat) :
    ∃ c, s.cel f l = .ok c := by
  obtain ⟨row, hrow, _⟩ := row_of_frame s hv f hf
  exact ⟨FrameCels.get? l row, by simp only [Sprite.cel, hrow]⟩

theorem cel_some_ok (s : Sprite) (hv : Valid s) (f l : Nat) (c : RawCel Pixels)
    (h : s.cel f l = .ok (some c)) :
    CelOk s.layers s.tilesets s.palette s.numFrames.toNat s.cels l c := by
  unfold Sprite.cel at h
  split at h
  · cases h
  · rename_i row hrow
    simp only [Res.ok.injEq] at h
    exact hv.cel_ok row (Array.mem_of_getElem? hrow) (l, c) (mem_of_assocGet? h)

section render
variable {F : Type} (ops : FOps F) (m : Profile)

theorem writeCelDirect_ok (s : Sprite) (hT : LayersTotal ops m s) (hv : Valid s) (img : Image)
    (k : Nat) (c : RawCel Pixels)
    (hc : CelOk s.layers s.tilesets s.palette s.numFrames.toNat s.cels k c)
    (hnl : ∀ f, c.content ≠ .linked f) :
    ∃ img', s.writeCelDirect ops m img c = .ok img' := by
  obtain ⟨hk, hlt, hcont⟩ := hc
  have hl : s.layers[c.data.layerIndex.toNat]? = some s.layers[k] := by rw [hk]; simp [hlt]
  have hmode : ModeTotal ops m s.layers[k].blendMode := hT s.layers[k] (Array.getElem_mem hlt)
  unfold Sprite.writeCelDirect
  simp only [hl]
  split
  · rename_i w h px hcc
    rw [hcc] at hcont
    obtain ⟨hsz, hok⟩ := hcont
    obtain ⟨rgba, hr, hrs⟩ := pixelsToRgba_ok s.palette px hok
    simp only [hr]
    exact writeRawCel_ok ops m img c.data w h rgba _ hmode _ (by rw [hrs, hsz])
  · rename_i t hcc
    rw [hcc] at hcont
    obtain ⟨ld, tsid, ts, hld, hlt', hts, hsz, hid⟩ := hcont
    obtain ⟨_, rfl⟩ := Array.getElem?_eq_some_iff.mp hld
    simp only [hlt', Sprite.tileset?, hts]
    obtain ⟨_, _, px, hpx, hpsz, hpok⟩ := hv.tileset_ok (tsid.toNat, ts) (mem_of_assocGet? hts)
    simp only at hpx hpsz
    obtain ⟨rgba, hr, hrs⟩ := pixelsToRgba_ok s.palette px hpok
    simp only [hpx, hr]
    exact writeTilemapCel_ok ops m img c.data t ts rgba _ hmode _ hsz (by rw [hrs, hpsz]) hid
  · rename_i f hcc
    exact absurd hcc (hnl f)

/-- `write_cel` -/
theorem writeCel_ok (s : Sprite) (hT : LayersTotal ops m s) (hv : Valid s) (img : Image)
    (k : Nat) (c : RawCel Pixels)
    (hc : CelOk s.layers s.tilesets s.palette s.numFrames.toNat s.cels k c) :
    ∃ img', s.writeCel ops m img c = .ok img' := by
  unfold Sprite.writeCel
  split
  · rename_i f hcc
    obtain ⟨hk, hlt, hcont⟩ := hc
    rw [hcc] at hcont
    obtain ⟨hf, row, t, hrow, hget, hraw⟩ := hcont
    have hl : s.layers[c.data.layerIndex.toNat]? = some s.layers[k] := by rw [hk]; simp [hlt]
    have hcel : s.cel f.toNat c.data.layerIndex.toNat = .ok (some t) := by
      simp only [Sprite.cel, hrow, hk, hget]
    simp only [hl, hcel]
    refine writeCelDirect_ok ops m s hT hv img k t
      (hv.cel_ok row (Array.mem_of_getElem? hrow) (k, t) (mem_of_assocGet? hget)) ?_
    intro f' hf'
    rw [hf'] at hraw
    cases hraw
  · rename_i hnl
    exact writeCelDirect_ok ops m s hT hv img k c hc (fun f hf => hnl f hf)

theorem frameImageLoop_ok (s : Sprite) (hT : LayersTotal ops m s) (hv : Valid s) :
    ∀ (row : FrameCels Pixels) (img : Image),
      (∀ p ∈ row, CelOk s.layers s.tilesets s.palette s.numFrames.toNat s.cels p.1 p.2) →
      ∃ img', s.frameImageLoop ops m row img = .ok img' := by
  intro row
  induction row with
  | nil => intro img _; exact ⟨img, rfl⟩
  | cons hd tl ih =>
      intro img hall
      obtain ⟨k, c⟩ := hd
      obtain ⟨hc, htl⟩ := List.forall_mem_cons.mp hall
      unfold Sprite.frameImageLoop
      have hk : ¬ k ≥ s.numLayers := Nat.not_le.mpr hc.2.1
      rw [if_neg hk]
      obtain ⟨b, hb⟩ := isVisible_ok s hv k hc.2.1
      cases b with
      | false =>
          simp only [hb]
          exact ih img htl
      | true =>
          obtain ⟨img1, himg1⟩ := writeCel_ok ops m s hT hv img k c hc
          simp only [hb, himg1]
          exact ih img1 htl

/-- `Frame::image`, asking only for the blend modes of the sprite's own layers -/
theorem frameImage_ok_of_layers (s : Sprite) (hT : LayersTotal ops m s) (hv : Valid s) (f : Nat)
    (hf : f < s.numFrames.toNat) :
    ∃ img, s.frameImage ops m f = .ok img ∧ img.w = s.width.toNat ∧ img.h = s.height.toNat := by
  obtain ⟨row, hrow, hmem⟩ := row_of_frame s hv f hf
  obtain ⟨img, himg⟩ := frameImageLoop_ok ops m s hT hv row s.canvas (hv.cel_ok row hmem)
  have hfi : s.frameImage ops m f = .ok img := by
    simp only [Sprite.frameImage, hrow]; exact himg
  obtain ⟨h1, h2, _⟩ := frameImage_dims ops m s f img hfi
  exact ⟨img, hfi, h1, h2⟩

/-- `Cel::image`, asking only for the blend modes of the sprite's own layers; any layer index is
    allowed (an absent cel gives the empty canvas) -/
theorem celImage_ok_of_layers (s : Sprite) (hT : LayersTotal ops m s) (hv : Valid s) (f l : Nat)
    (hf : f < s.numFrames.toNat) :
    ∃ img, s.celImage ops m f l = .ok img ∧ img.w = s.width.toNat ∧ img.h = s.height.toNat := by
  obtain ⟨oc, hoc⟩ := cel_ok s hv f l hf
  have hex : ∃ img, s.celImage ops m f l = .ok img := by
    unfold Sprite.celImage
    cases oc with
    | none => simp only [hoc]; exact ⟨_, rfl⟩
    | some c =>
        simp only [hoc]
        exact writeCel_ok ops m s hT hv s.canvas l c (cel_some_ok s hv f l c hoc)
  obtain ⟨img, himg⟩ := hex
  obtain ⟨h1, h2, _⟩ := celImage_dims ops m s f l img himg
  exact ⟨img, himg, h1, h2⟩

/-- **C05**: `Frame::image` returns an image of the canvas size -/
theorem frameImage_ok (hT : FloatTotal ops m) (s : Sprite) (hv : Valid s) (f : Nat)
    (hf : f < s.numFrames.toNat) :
    ∃ img, s.frameImage ops m f = .ok img ∧ img.w = s.width.toNat ∧ img.h = s.height.toNat :=
  frameImage_ok_of_layers ops m s (hT.layers s) hv f hf

/-- **C05**: `Cel::image` returns an image of the canvas size; the hypothesis `l < s.numLayers` of
    the API is not needed -/
theorem celImage_ok (hT : FloatTotal ops m) (s : Sprite) (hv : Valid s) (f l : Nat)
    (hf : f < s.numFrames.toNat) (_hl : l < s.numLayers) :
    ∃ img, s.celImage ops m f l = .ok img ∧ img.w = s.width.toNat ∧ img.h = s.height.toNat :=
  celImage_ok_of_layers ops m s (hT.layers s) hv f l hf

/-- layers with integer blend modes only: no hypothesis on `ops`, either profile -/
theorem frameImage_ok_int (s : Sprite) (hv : Valid s)
    (hint : ∀ ld ∈ s.layers, C17.intMode ld.blendMode = true) (f : Nat)
    (hf : f < s.numFrames.toNat) :
    ∃ img, s.frameImage ops m f = .ok img ∧ img.w = s.width.toNat ∧ img.h = s.height.toNat :=
  frameImage_ok_of_layers ops m s (layersTotal_of_int ops m s hint) hv f hf

theorem celImage_ok_int (s : Sprite) (hv : Valid s)
    (hint : ∀ ld ∈ s.layers, C17.intMode ld.blendMode = true) (f l : Nat)
    (hf : f < s.numFrames.toNat) :
    ∃ img, s.celImage ops m f l = .ok img ∧ img.w = s.width.toNat ∧ img.h = s.height.toNat :=
  celImage_ok_of_layers ops m s (layersTotal_of_int ops m s hint) hv f l hf

end render

theorem ceil_le (W t : Nat) (ht : 1 ≤ t) : (W + t - 1) / t ≤ W := by
  -- `W + t - 1 < t * (W + 1)` because `W ≤ t * W`
  have := Nat.le_mul_of_pos_left W ht
  exact Nat.le_of_lt_succ (Nat.div_lt_of_lt_mul (by rw [Nat.mul_succ]; omega))

/-- the logical size of a tilemap view fits the `u16` the library asserts it to fit -/
theorem ceil_lt (W : UInt16) (t : Nat) (ht : 1 ≤ t) : (W.toNat + t - 1) / t < 65536 :=
  Nat.lt_of_le_of_lt (ceil_le W.toNat t ht) W.toNat_lt

/-- **C05**: `tilemap(layer, frame)` returns, for all arguments (the value is an `Option`) -/
theorem tilemap_ok (s : Sprite) (hv : Valid s) (l f : Nat) : ∃ r, s.tilemap l f = .ok r := by
  unfold Sprite.tilemap
  split
  · exact ⟨_, rfl⟩
  · rename_i hrange
    simp only [Bool.or_eq_true, decide_eq_true_eq, not_or, Nat.not_le, ge_iff_le] at hrange
    obtain ⟨hl, hf⟩ := hrange
    simp only [Array.getElem?_eq_getElem (show l < s.layers.size from hl)]
    split
    · rename_i tsid htsid
      split
      · exact ⟨_, rfl⟩
      · rename_i ts hts
        obtain ⟨oc, hoc⟩ := cel_ok s hv f l hf
        simp only [hoc]
        cases oc with
        | none => exact ⟨_, rfl⟩
        | some c =>
            simp only
            split
            · rename_i t ht
              obtain ⟨hw, hh, _⟩ := hv.tileset_ok (tsid.toNat, ts) (mem_of_assocGet? hts)
              simp only at hw hh
              have hz : (ts.tileW.toNat == 0 || ts.tileH.toNat == 0) = false := by
                simp only [Bool.or_eq_false_iff, beq_eq_false_iff_ne]
                omega
              simp only [hz, Bool.false_eq_true, if_false]
              simp only [ceil_lt s.width _ hw, ceil_lt s.height _ hh, decide_true, Bool.and_self,
                if_true]
              exact ⟨_, rfl⟩
            · exact ⟨_, rfl⟩
    · exact ⟨_, rfl⟩

theorem tilemap_view_ok (s : Sprite) (hv : Valid s) (l f : Nat) (v : TilemapView)
    (h : s.tilemap l f = .ok (some v)) :
    v.data.tiles.size = v.data.width.toNat * v.data.height.toNat := by
  obtain ⟨_, _, _, _, _, hcel, hcont, _⟩ := C08.tilemap_eq_ok_some s l f v h
  obtain ⟨_, _, hc⟩ := cel_some_ok s hv f l v.cel hcel
  rw [hcont] at hc
  obtain ⟨_, _, _, _, _, _, hsz, _⟩ := hc
  exact hsz

/-- **C05**: `Tilemap::tile_offsets` returns (`tilemap` itself has refused a tile size of zero, so
    `Valid` is not needed) -/
theorem tileOffsets_ok (s : Sprite) (_hv : Valid s) (l f : Nat) (v : TilemapView)
    (h : s.tilemap l f = .ok (some v)) : ∃ o, v.tileOffsets = .ok o :=
  let ⟨_, _, hw, hh⟩ := C08.tilemap_size s l f v h
  ⟨_, C08.tile_offsets v hw hh⟩

/-- **C05**: `Tilemap::tile(x, y)` returns, for all coordinates -/
theorem tile_ok (s : Sprite) (hv : Valid s) (l f : Nat) (v : TilemapView)
    (h : s.tilemap l f = .ok (some v)) (x y : Nat) : ∃ id, v.tile x y = .ok id := by
  have hsz := tilemap_view_ok s hv l f v h
  obtain ⟨⟨ox, oy⟩, hofs⟩ := tileOffsets_ok s hv l f v h
  by_cases hin : (0 ≤ (x : Int) - ox ∧ 0 ≤ (y : Int) - oy) ∧
      (x : Int) - ox < v.data.width.toNat ∧ (y : Int) - oy < v.data.height.toNat
  · obtain ⟨id, _, hid⟩ := C08.tile_inside v x y ox oy hofs hsz hin.1.1 hin.1.2 hin.2.1 hin.2.2
    exact ⟨_, hid⟩
  · exact ⟨0, C08.tile_outside_empty v x y ox oy hofs (by omega)⟩

theorem fromRaw_ok {w h : Nat} {buf : Array RGBA} (hsz : w * h ≤ buf.size) :
    Image.fromRaw w h buf = .ok ⟨w, h, buf.extract 0 (w * h)⟩ :=
  if_neg (Nat.not_lt.mpr hsz)

/-- **C05**: `Tileset::tile_image(i)` returns an image of the tile size for `i < tile_count` -/
theorem tileImage_ok (s : Sprite) (hv : Valid s) (p : Nat × Tileset Pixels) (hp : p ∈ s.tilesets)
    (i : Nat) (hi : i < p.2.tileCount.toNat) :
    ∃ img, p.2.tileImage s.palette i = .ok img ∧
      img.w = p.2.tileW.toNat ∧ img.h = p.2.tileH.toNat := by
  obtain ⟨_, _, px, hpx, hpsz, hpok⟩ := hv.tileset_ok p hp
  obtain ⟨rgba, hr, hrs⟩ := pixelsToRgba_ok s.palette px hpok
  unfold Tileset.tileImage
  simp only [if_neg (Nat.not_le.mpr hi), hpx, hr]
  rw [fromRaw_ok]
  · exact ⟨_, rfl, rfl, rfl⟩
  · have hwin := tile_window (ppt := p.2.tileW.toNat * p.2.tileH.toNat) hi
    rw [Array.size_extract, hrs, hpsz, Nat.mul_assoc, Nat.mul_comm p.2.tileCount.toNat,
      Nat.mul_comm i]
    omega

/-- **C05**: `Tileset::image()` returns; `hfit`: the `u32` product `tile_height * tile_count` of its
    implementation does not overflow -/
theorem tilesetImage_ok (m : Profile) (s : Sprite) (hv : Valid s) (p : Nat × Tileset Pixels)
    (hp : p ∈ s.tilesets) (hfit : p.2.tileH.toNat * p.2.tileCount.toNat < 2 ^ 32) :
    ∃ img, p.2.image m s.palette = .ok img ∧
      img.w = p.2.tileW.toNat ∧ img.h = p.2.tileH.toNat * p.2.tileCount.toNat := by
  obtain ⟨_, _, px, hpx, hpsz, hpok⟩ := hv.tileset_ok p hp
  obtain ⟨rgba, hr, hrs⟩ := pixelsToRgba_ok s.palette px hpok
  unfold Tileset.image
  have hmul : u32Mul m p.2.tileH.toNat p.2.tileCount.toNat = .ok _ := if_pos hfit
  simp only [hmul, hpx, hr]
  rw [fromRaw_ok]
  · exact ⟨_, rfl, rfl, rfl⟩
  · rw [hrs, hpsz]
    exact Nat.le_of_eq (by ac_rfl)

/-- `tilesets().get(id).expect(..)` on a tilemap layer's id succeeds (`file.rs:360-363`) -/
theorem layer_tileset_ok (s : Sprite) (hv : Valid s) (l : Nat) (ld : LayerData) (tsid : UInt32)
    (hl : s.layers[l]? = some ld) (ht : ld.layerType = .tilemap tsid) :
    ∃ ts, s.tileset? tsid.toNat = some ts ∧ TilesetOk s.palette ts := by
  have := hv.layer_tileset ld (Array.mem_of_getElem? hl) tsid ht
  obtain ⟨ts, hts⟩ := Option.isSome_iff_exists.mp this
  exact ⟨ts, hts, hv.tileset_ok (tsid.toNat, ts) (mem_of_assocGet? hts)⟩

section blend
open Blend
variable {F : Type} (ops : FOps F)

theorem floatTotal_of_noAsserts {m : Profile} (hm : m.debugAsserts = false) : FloatTotal ops m :=
  C17.blend_total_of_noAsserts ops hm

/-- the release profile has no `debug_assert!`s; `loaded_sprite_usable` renders under this -/
theorem floatTotal_release : FloatTotal ops Profile.release := floatTotal_of_noAsserts ops rfl

end blend

/-- **C05**: a byte string that loads yields a sprite on which every accessor succeeds;
    `Tileset::image()` when `tile_height * tile_count < 2^32`.  (Release profile, so that no
    hypothesis on the floating-point parameter is left.) -/
theorem loaded_sprite_usable {F : Type} (ops : FOps F) (inflate : Inflate) (bs : Bytes)
    (s : Sprite) (h : parse inflate Profile.release bs = .ok s) :
    (∀ i, i < s.numLayers → ∃ b, s.isVisible i = .ok b) ∧
    (∀ f l, f < s.numFrames.toNat → ∃ c, s.cel f l = .ok c) ∧
    (∀ f, f < s.numFrames.toNat → ∃ img, s.frameImage ops Profile.release f = .ok img ∧
        img.w = s.width.toNat ∧ img.h = s.height.toNat) ∧
    (∀ f l, f < s.numFrames.toNat → l < s.numLayers →
        ∃ img, s.celImage ops Profile.release f l = .ok img ∧
        img.w = s.width.toNat ∧ img.h = s.height.toNat) ∧
    (∀ l f, ∃ r, s.tilemap l f = .ok r) ∧
    (∀ l f v, s.tilemap l f = .ok (some v) →
        (∃ o, v.tileOffsets = .ok o) ∧ ∀ x y, ∃ id, v.tile x y = .ok id) ∧
    (∀ p ∈ s.tilesets, ∀ i, i < p.2.tileCount.toNat →
        ∃ img, p.2.tileImage s.palette i = .ok img ∧
          img.w = p.2.tileW.toNat ∧ img.h = p.2.tileH.toNat) ∧
    (∀ p ∈ s.tilesets, p.2.tileH.toNat * p.2.tileCount.toNat < 2 ^ 32 →
        ∃ img, p.2.image Profile.release s.palette = .ok img ∧
          img.w = p.2.tileW.toNat ∧ img.h = p.2.tileH.toNat * p.2.tileCount.toNat) :=
  have hv := parse_valid inflate Profile.release bs s h
  ⟨isVisible_ok s hv, cel_ok s hv, frameImage_ok ops _ (floatTotal_release ops) s hv,
    celImage_ok ops _ (floatTotal_release ops) s hv, tilemap_ok s hv,
    fun l f v hvw => ⟨tileOffsets_ok s hv l f v hvw, tile_ok s hv l f v hvw⟩,
    tileImage_ok s hv, tilesetImage_ok _ s hv⟩

section examples

/-- a two-frame RGBA file: one visible layer, a raw 1×1 cel in frame 0, a cel linked to it in
    frame 1 -/
def demoFile : Bytes :=
  ([0,0,0,0, 0xE0,0xA5, 2,0, 1,0, 1,0, 32,0, 0,0,0,0, 100,0, 0,0,0,0, 0,0,0,0, 0, 0,0,0, 0,0,
    1, 1, 0,0, 0,0, 0,0, 0,0] ++ List.replicate 84 0)
  ++ [70,0,0,0, 0xFA,0xF1, 2,0, 100,0, 0,0, 0,0,0,0]
  ++ [24,0,0,0, 0x04,0x20, 1,0, 0,0, 0,0, 0,0, 0,0, 0,0, 255, 0, 0,0, 0,0]
  ++ [30,0,0,0, 0x05,0x20, 0,0, 0,0, 0,0, 255, 0,0, 0,0,0,0,0,0,0, 1,0, 1,0, 10,20,30,255]
  ++ [40,0,0,0, 0xFA,0xF1, 1,0, 100,0, 0,0, 0,0,0,0]
  ++ [24,0,0,0, 0x05,0x20, 0,0, 0,0, 0,0, 255, 1,0, 0,0,0,0,0,0,0, 0,0]

/-- the kernel evaluates the load once (`demo_loads`); the example below reads the conjuncts off the
    Boolean -/
def demoCheck : Res Sprite → Bool
  | .ok s => s.numFrames.toNat == 2 && s.layers.size == 1 &&
      s.layers.all (fun l => C17.intMode l.blendMode)
  | _ => false

theorem demo_loads :
    demoCheck (parse (fun _ => .err .invalid) Profile.checked demoFile) = true := by
  decide +kernel

/-- the hypothesis of `parse_valid` is satisfiable by a file with a raw and a linked cel
    (checked profile; the only layer uses Normal mode, so no hypothesis on `ops` is left) -/
example {F : Type} (ops : FOps F) :
    ∃ s, parse (fun _ => .err .invalid) Profile.checked demoFile = .ok s ∧ Valid s ∧
      s.numFrames.toNat = 2 ∧ s.numLayers = 1 ∧
      (∃ b, s.isVisible 0 = .ok b) ∧ (∃ c, s.cel 1 0 = .ok c) ∧
      (∃ r, s.tilemap 0 1 = .ok r) ∧
      (∃ img, s.frameImage ops Profile.checked 1 = .ok img ∧
        img.w = s.width.toNat ∧ img.h = s.height.toNat) := by
  have h := demo_loads
  generalize hp : parse (fun _ => .err .invalid) Profile.checked demoFile = r at h
  cases r with
  | ok s =>
      simp only [demoCheck, Bool.and_eq_true, beq_iff_eq, Array.all_eq_true_iff_forall_mem] at h
      obtain ⟨⟨h1, h2⟩, h3⟩ := h
      have hv := parse_valid _ _ _ s hp
      exact ⟨s, rfl, hv, h1, h2, isVisible_ok s hv 0 (by rw [Sprite.numLayers, h2]; omega),
        cel_ok s hv 1 0 (by omega), tilemap_ok s hv 0 1,
        frameImage_ok_int ops _ s hv h3 1 (by omega)⟩
  | _ => cases h

def demoTM : Sprite :=
  { width := 2, height := 2, numFrames := 1, format := .rgba, palette := none,
    layers := #[{ flags := 1, name := [], blendMode := 0, opacity := 255,
                  layerType := .tilemap 7, childLevel := 0, userData := none }],
    parents := #[none], frameTimes := #[100], tags := #[],
    cels := #[[(0, { data := ⟨0, 0, 0, 255⟩,
                     content := .tilemap { width := 2, height := 1, tiles := #[1, 0],
                                           mask := ⟨0x1fffffff, 0, 0, 0⟩ },
                     userData := none })]],
    extFiles := [],
    tilesets := [(7, { id := 7, emptyTileIsZero := true, tileCount := 2, tileW := 1, tileH := 2,
                       baseIndex := 1, name := [], extFile := none,
                       pixels := some (.rgba #[⟨0,0,0,0⟩, ⟨0,0,0,0⟩, ⟨1,2,3,255⟩, ⟨4,5,6,255⟩]) })],
    spriteUserData := none, slices := #[] }

/-- `Valid` is satisfiable by a sprite with a tilemap cel -/
theorem demoTM_valid : Valid demoTM := by
  refine {
    parents_size := rfl
    parents_lt := ?parents_lt
    cels_size := rfl
    cel_ok := ?cel_ok
    tileset_ok := ?tileset_ok
    layer_tileset := ?layer_tileset }
  case parents_lt =>
    intro i p h
    cases i <;> simp [demoTM] at h
  case cel_ok =>
    intro row hrow p hp
    simp only [demoTM, List.mem_toArray, List.mem_singleton] at hrow
    subst hrow
    simp only [List.mem_singleton] at hp
    subst hp
    refine ⟨rfl, by decide, ?_⟩
    refine ⟨_, 7, _, rfl, rfl, rfl, rfl, ?_⟩
    intro id hid
    simp at hid
    rcases hid with rfl | rfl <;> decide
  case tileset_ok =>
    intro p hp
    simp only [demoTM, List.mem_singleton] at hp
    subst hp
    exact ⟨by decide, by decide, _, rfl, rfl, trivial⟩
  case layer_tileset =>
    intro ld hld tsid ht
    simp only [demoTM, List.mem_toArray, List.mem_singleton] at hld
    subst hld
    simp only [LayerType.tilemap.injEq] at ht
    subst ht
    rfl

example : ∃ v, demoTM.tilemap 0 0 = .ok (some v) ∧ v.tile 0 0 = .ok 1 ∧ v.tile 1 0 = .ok 0 ∧
    v.tile 1000000 5 = .ok 0 :=
  ⟨_, rfl, by decide +kernel, by decide +kernel, by decide +kernel⟩

example {F : Type} (ops : FOps F) (m : Profile) :
    ∃ img, demoTM.frameImage ops m 0 = .ok img ∧ img.w = 2 ∧ img.h = 2 :=
  frameImage_ok_int ops m demoTM demoTM_valid (by
    intro ld hld
    simp only [demoTM, List.mem_toArray, List.mem_singleton] at hld
    subst hld
    rfl) 0 (by decide)

/-- the hypothesis `hfit` of `tilesetImage_ok` is needed: the checked profile panics on the
    `u32` product whatever the pixels are -/
example (pal : Option Palette) (ts : Tileset Pixels) (h1 : ts.tileH = 65535)
    (h2 : ts.tileCount = 65538) : ts.image Profile.checked pal = .panic .overflow := by
  simp [Tileset.image, u32Mul, h1, h2, Profile.checked]

end examples

end Ase.Proofs.C05
