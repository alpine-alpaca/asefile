import AseProofs.Lemmas.RasterTile
import AseProofs.Props.C08
import AseProofs.Props.C17
/-
  C08 (point-wise)  A tilemap cel's image shows, at each canvas position, the pixel of the tile
  the stored map holds for the covering tile — the tile `Tilemap::tile` reports.
-/
namespace Ase.Proofs.C08
open Ase Ase.Proofs

variable {F : Type} (ops : FOps F) (m : Profile)

/-- one tile: the `tw × th` tile with pixels `tp` drawn at `(bx, by_)`: inside its rectangle
    the new pixel is `blend mode old tp[(Y - by_) * tw + (X - bx)] op`, outside unchanged -/
theorem writeTilePixels_pointwise (mode : Nat) (op : UInt8) (tp : Array RGBA) (tw th : Nat)
    (bx by_ : Int) (htw : 0 < tw) (img img' : Image)
    (h : Sprite.writeTilePixels ops m mode op tp tw bx by_ (tw * th) 0 img = .ok img')
    (hsz : img.px.size = img.w * img.h) (X Y : Nat) (hX : X < img.w) (hY : Y < img.h) :
    (InRect bx by_ tw th X Y →
      ∃ old p v, img.get X Y = .ok old ∧
        tp[((Y : Int) - by_).toNat * tw + ((X : Int) - bx).toNat]? = some p ∧
        Blend.blend ops m mode old p op = .ok v ∧ img'.get X Y = .ok v) ∧
    (¬ InRect bx by_ tw th X Y → img'.get X Y = img.get X Y) :=
  -- `htw` is not needed: a tile of width 0 has an empty rectangle and no pixel to draw
  have _ := htw
  (tilePxs_painted (writeTilePixels_eq ops m (fun _ _ => rfl) .. ▸ h)).get hsz hX hY

/-- **C08** (tiles do not overlap): a canvas position lies in at most one tile rectangle -/
theorem tile_unique {cx cy : Int} {tw th tx ty tx' ty' X Y : Nat} (htw : 0 < tw) (hth : 0 < th)
    (h : InTile cx cy tw th tx ty X Y) (h' : InTile cx cy tw th tx' ty' X Y) :
    tx = tx' ∧ ty = ty' := by
  obtain ⟨_, _, a, b⟩ := (inTile_iff htw hth).mp h
  obtain ⟨_, _, a', b'⟩ := (inTile_iff htw hth).mp h'
  exact ⟨a.symm.trans a', b.symm.trans b'⟩

theorem tileSrc_some {tiles : Array UInt32} {pixels : Array RGBA} {tw th mw : Nat} {cx cy : Int}
    {X Y : Nat} {p : RGBA} (h : tileSrc tiles pixels tw th mw cx cy X Y = some p) :
    ∃ id, tiles[tileOf cx cy tw th mw X Y]? = some id ∧
      pixels[tw * th * id.toNat + (((Y : Int) - cy).toNat % th) * tw + ((X : Int) - cx).toNat % tw]?
        = some p := by
  unfold tileSrc at h
  split at h
  · cases h
  · rename_i id hid
    exact ⟨id, hid, h⟩

/-- all tiles (`writeTiles` over the whole stored map at `(cx, cy)`): a canvas position
    `(X, Y)` in the rectangle of the stored tile `(tx, ty)` receives
    `blend mode old tilesetPixels[id*tw*th + (Y - cy - ty*th)*tw + (X - cx - tx*tw)] op` with
    `id = tiles[ty * mapW + tx]`; positions in no tile rectangle are unchanged. -/
theorem writeTiles_pointwise (mode : Nat) (op : UInt8) (t : TilemapData) (pixels : Array RGBA)
    (tw th : Nat) (cx cy : Int) (htw : 0 < tw) (hth : 0 < th) (img img' : Image)
    (h : Sprite.writeTiles ops m mode op t pixels tw th cx cy
          (t.width.toNat * t.height.toNat) 0 img = .ok img')
    (hsz : img.px.size = img.w * img.h) (X Y : Nat) (hX : X < img.w) (hY : Y < img.h) :
    (∀ tx ty, tx < t.width.toNat → ty < t.height.toNat → InTile cx cy tw th tx ty X Y →
      ∃ id old p v, t.tiles[ty * t.width.toNat + tx]? = some id ∧ img.get X Y = .ok old ∧
        pixels[tw * th * id.toNat +
          ((Y : Int) - (((ty * th : Nat) : Int) + cy)).toNat * tw +
          ((X : Int) - (((tx * tw : Nat) : Int) + cx)).toNat]? = some p ∧
        Blend.blend ops m mode old p op = .ok v ∧ img'.get X Y = .ok v) ∧
    ((∀ tx ty, tx < t.width.toNat → ty < t.height.toNat → ¬ InTile cx cy tw th tx ty X Y) →
      img'.get X Y = img.get X Y) := by
  have hsp := (writeTiles_painted ops m mode op t pixels tw th cx cy img img' h).get hsz hX hY
  simp only [htw, hth, true_and] at hsp
  constructor
  · intro tx ty htx hty hin
    have hmap : InMap cx cy tw th t.width.toNat t.height.toNat X Y :=
      (inMap_iff_exists htw hth).mpr ⟨tx, ty, htx, hty, hin⟩
    obtain ⟨old, p, v, h1, h2, h3, h4⟩ := hsp.1 hmap
    obtain ⟨id, hid, hp⟩ := tileSrc_some h2
    obtain ⟨_, _, a, b⟩ := (inTile_iff htw hth).mp hin
    obtain ⟨e1, e2⟩ := inTile_offsets htw hth hin
    refine ⟨id, old, p, v, ?_, h1, ?_, h3, h4⟩
    · unfold tileOf at hid
      rw [a, b] at hid
      exact hid
    · rw [e1, e2]
      exact hp
  · intro hnone
    apply hsp.2
    intro hmap
    obtain ⟨tx, ty, h1, h2, h3⟩ := (inMap_iff_exists htw hth).mp hmap
    exact hnone tx ty h1 h2 h3

/-- **C08** (tilemap cel image, any pixel offset): the position `(X, Y)` covered by the stored
    tile `((X - cx) / tw, (Y - cy) / th)` shows pixel `((Y - cy) mod th, (X - cx) mod tw)` of the
    tileset tile whose id the stored map holds there, alpha scaled by the opacity product (in
    every blend mode); uncovered positions are fully transparent -/
theorem tilemapCelImage_spec (s : Sprite) (f l : Nat) (c : RawCel Pixels) (t : TilemapData)
    (layer : LayerData) (tsid : UInt32) (ts : Tileset Pixels) (px : Pixels) (rgba : Array RGBA)
    (img : Image)
    (hc : s.cel f l = .ok (some c)) (hcontent : c.content = .tilemap t)
    (hlayer : s.layers[c.data.layerIndex.toNat]? = some layer)
    (hlt : layer.layerType = .tilemap tsid) (hts : s.tileset? tsid.toNat = some ts)
    (hpx : ts.pixels = some px) (hrgba : pixelsToRgba s.palette px = .ok rgba)
    (htw : 0 < ts.tileW.toNat) (hth : 0 < ts.tileH.toNat)
    (himg : s.celImage ops m f l = .ok img)
    (X Y : Nat) (hX : X < s.width.toNat) (hY : Y < s.height.toNat) :
    (InMap c.data.x.toInt c.data.y.toInt ts.tileW.toNat ts.tileH.toNat t.width.toNat t.height.toNat X Y →
      ∃ id p,
        t.tiles[tileOf c.data.x.toInt c.data.y.toInt ts.tileW.toNat ts.tileH.toNat t.width.toNat X Y]?
          = some id ∧
        rgba[ts.tileW.toNat * ts.tileH.toNat * id.toNat +
              (((Y : Int) - c.data.y.toInt).toNat % ts.tileH.toNat) * ts.tileW.toNat +
              ((X : Int) - c.data.x.toInt).toNat % ts.tileW.toNat]? = some p ∧
        img.get X Y = .ok ⟨p.r, p.g, p.b,
          Blend.mulUn8 (Blend.ch p.a)
            (Blend.ch (Blend.mulUn8 (Blend.ch layer.opacity) (Blend.ch c.data.opacity)))⟩) ∧
    (¬ InMap c.data.x.toInt c.data.y.toInt ts.tileW.toNat ts.tileH.toNat t.width.toNat t.height.toNat X Y →
      img.get X Y = .ok RGBA.zero) := by
  have hw : Sprite.writeTilemapCel ops m s.canvas c.data t ts rgba layer.blendMode layer.opacity
      = .ok img := by
    simpa only [Sprite.celImage, hc, Sprite.writeCel, hcontent, Sprite.writeCelDirect, hlayer, hlt,
      hts, hpx, hrgba] using himg
  have hsp := (writeTilemapCel_painted ops m s.canvas img c.data t ts rgba layer.blendMode
    layer.opacity hw).of_canvas hX hY
  simp only [htw, hth, true_and] at hsp
  refine ⟨fun hin => ?_, hsp.2⟩
  obtain ⟨p, v, h2, h3, h4⟩ := hsp.1 hin
  obtain ⟨id, hid, hp⟩ := tileSrc_some h2
  rw [C17.over_transparent ops m layer.blendMode RGBA.zero p _ rfl] at h3
  cases h3
  exact ⟨id, p, hid, hp, h4⟩

/-- for an offset `ox * tw`: `X` is not left of it iff `X / tw ≥ ox`, and then quotient and
    remainder of `X` relative to the offset are `X / tw - ox` and `X % tw` -/
theorem aligned_div (tw X : Nat) (ox : Int) (htw : 0 < tw) :
    (ox * (tw : Int) ≤ (X : Int) ↔ 0 ≤ ((X / tw : Nat) : Int) - ox) ∧
    (0 ≤ ((X / tw : Nat) : Int) - ox →
      ((X : Int) - ox * (tw : Int)).toNat / tw = (((X / tw : Nat) : Int) - ox).toNat ∧
      ((X : Int) - ox * (tw : Int)).toNat % tw = X % tw) := by
  have hle : ox * (tw : Int) ≤ (X : Int) ↔ 0 ≤ ((X / tw : Nat) : Int) - ox := by
    rw [Int.natCast_ediv, ← Int.le_ediv_iff_mul_le (Int.natCast_pos.mpr htw)]
    omega
  refine ⟨hle, fun h => ?_⟩
  have hdm := Nat.div_add_mod' X tw
  have hr := Nat.mod_lt X htw
  generalize X / tw = q at hdm h ⊢
  generalize X % tw = r at hdm hr ⊢
  obtain ⟨k, hk⟩ := exists_offset (x0 := ox) (X := q) (by omega)
  have hX : (X : Int) = ox * tw + ((k * tw + r : Nat) : Int) := by
    subst hdm
    rw [Int.natCast_add, Int.natCast_mul, hk, Int.natCast_add, Int.natCast_mul, Int.add_mul,
      Int.add_assoc]
  rw [toNat_sub_of_eq hX, show (q : Int) - ox = k by omega]
  exact divmod_unique hr rfl

/-- apart, so that `omega` sees these four atoms and not the context of `tilemapImage_spec` -/
theorem outside_of_not_inside {a b : Int} {w h : Nat}
    (hn : ¬ (0 ≤ a ∧ a < (w : Int) ∧ 0 ≤ b ∧ b < (h : Int))) :
    a < 0 ∨ b < 0 ∨ a ≥ (w : Int) ∨ b ≥ (h : Int) := by omega

theorem aligned_lt {tw X mw : Nat} {ox : Int} (htw : 0 < tw) :
    (ox * (tw : Int) ≤ (X : Int) ∧ ((X : Int) - ox * (tw : Int)).toNat / tw < mw) ↔
      (0 ≤ ((X / tw : Nat) : Int) - ox ∧ ((X / tw : Nat) : Int) - ox < (mw : Int)) := by
  obtain ⟨a1, a2⟩ := aligned_div tw X ox htw
  constructor
  · intro ⟨m1, m3⟩
    rw [(a2 (a1.mp m1)).1] at m3
    exact ⟨a1.mp m1, (Int.toNat_lt (a1.mp m1)).mp m3⟩
  · intro ⟨i1, i2⟩
    exact ⟨a1.mpr i1, by rw [(a2 i1).1]; exact (Int.toNat_lt i1).mpr i2⟩

theorem inMap_aligned {tw th mw mh X Y : Nat} {ox oy : Int} (htw : 0 < tw) (hth : 0 < th) :
    InMap (ox * (tw : Int)) (oy * (th : Int)) tw th mw mh X Y ↔
      (0 ≤ ((X / tw : Nat) : Int) - ox ∧ ((X / tw : Nat) : Int) - ox < (mw : Int) ∧
        0 ≤ ((Y / th : Nat) : Int) - oy ∧ ((Y / th : Nat) : Int) - oy < (mh : Int)) := by
  unfold InMap
  rw [← and_assoc, and_and_and_comm, aligned_lt htw, aligned_lt hth, and_assoc]

/-- **C08, point-wise**: for a tilemap whose cel offset is tile-aligned (`x = ox * tw`,
    `y = oy * th`), the image of the tilemap cel shows at `(X, Y)` the pixel
    `(Y mod th, X mod tw)` of the tile that `Tilemap::tile(X / tw, Y / th)` reports (alpha scaled
    by the opacity product, in every blend mode) when the lookup falls into the stored area;
    outside it the lookup reports the empty tile `0` and the image is fully transparent.
    `hli` and `hsize` hold in a loaded sprite (`C05.cel_some_ok`, `C05.tilemap_view_ok`). -/
theorem tilemapImage_spec (s : Sprite) (l f : Nat) (v : TilemapView) (ld : LayerData)
    (px : Pixels) (rgba : Array RGBA) (img : Image) (ox oy : Int)
    (hv : s.tilemap l f = .ok (some v)) (hli : v.cel.data.layerIndex.toNat = l)
    (hld : s.layers[l]? = some ld)
    (hpx : v.tileset.pixels = some px) (hrgba : pixelsToRgba s.palette px = .ok rgba)
    (hsize : v.data.tiles.size = v.data.width.toNat * v.data.height.toNat)
    (hox : v.cel.data.x.toInt = ox * (v.tileset.tileW.toNat : Int))
    (hoy : v.cel.data.y.toInt = oy * (v.tileset.tileH.toNat : Int))
    (himg : s.celImage ops m f l = .ok img)
    (X Y : Nat) (hX : X < s.width.toNat) (hY : Y < s.height.toNat) :
    ∃ id, v.tile (X / v.tileset.tileW.toNat) (Y / v.tileset.tileH.toNat) = .ok id ∧
      ((0 ≤ ((X / v.tileset.tileW.toNat : Nat) : Int) - ox ∧
        ((X / v.tileset.tileW.toNat : Nat) : Int) - ox < (v.data.width.toNat : Int) ∧
        0 ≤ ((Y / v.tileset.tileH.toNat : Nat) : Int) - oy ∧
        ((Y / v.tileset.tileH.toNat : Nat) : Int) - oy < (v.data.height.toNat : Int)) →
        ∃ p, rgba[v.tileset.tileW.toNat * v.tileset.tileH.toNat * id +
                (Y % v.tileset.tileH.toNat) * v.tileset.tileW.toNat + X % v.tileset.tileW.toNat]?
              = some p ∧
          img.get X Y = .ok ⟨p.r, p.g, p.b,
            Blend.mulUn8 (Blend.ch p.a)
              (Blend.ch (Blend.mulUn8 (Blend.ch ld.opacity) (Blend.ch v.cel.data.opacity)))⟩) ∧
      (¬ (0 ≤ ((X / v.tileset.tileW.toNat : Nat) : Int) - ox ∧
        ((X / v.tileset.tileW.toNat : Nat) : Int) - ox < (v.data.width.toNat : Int) ∧
        0 ≤ ((Y / v.tileset.tileH.toNat : Nat) : Int) - oy ∧
        ((Y / v.tileset.tileH.toNat : Nat) : Int) - oy < (v.data.height.toNat : Int)) →
        id = 0 ∧ img.get X Y = .ok RGBA.zero) := by
  obtain ⟨ld', tsid, hld', hlt, hts, hc, hcont, _, _, hnw, hnh, _⟩ := tilemap_eq_ok_some s l f v hv
  have htw := Nat.pos_of_ne_zero hnw
  have hth := Nat.pos_of_ne_zero hnh
  rw [hld] at hld'; cases hld'
  have hlayer : s.layers[v.cel.data.layerIndex.toNat]? = some ld := by
    rw [hli]
    exact hld
  have hsp := tilemapCelImage_spec ops m s f l v.cel v.data ld tsid v.tileset px rgba img hc hcont
    hlayer hlt hts hpx hrgba htw hth himg X Y hX hY
  have hofs : v.tileOffsets = .ok (ox, oy) := by
    rw [tile_offsets v hnw hnh, hox, hoy, Int.mul_tdiv_cancel _ (Int.natCast_pos.mpr htw).ne',
      Int.mul_tdiv_cancel _ (Int.natCast_pos.mpr hth).ne']
  rw [hox, hoy] at hsp
  have hiff := @inMap_aligned _ _ v.data.width.toNat v.data.height.toNat X Y ox oy htw hth
  rw [← hiff]
  by_cases hin : InMap (ox * (v.tileset.tileW.toNat : Int)) (oy * (v.tileset.tileH.toNat : Int))
      v.tileset.tileW.toNat v.tileset.tileH.toNat v.data.width.toNat v.data.height.toNat X Y
  · obtain ⟨id, p, hid, hp, hget⟩ := hsp.1 hin
    obtain ⟨i1, i2, i3, i4⟩ := hiff.mp hin
    obtain ⟨dx1, dx2⟩ := (aligned_div v.tileset.tileW.toNat X ox htw).2 i1
    obtain ⟨dy1, dy2⟩ := (aligned_div v.tileset.tileH.toNat Y oy hth).2 i3
    obtain ⟨id', hid', htile⟩ := tile_inside v _ _ ox oy hofs hsize i1 i3 i2 i4
    unfold tileOf at hid
    rw [dx1, dy1, hid'] at hid
    cases hid
    rw [dx2, dy2] at hp
    exact ⟨_, htile, fun _ => ⟨p, hp, hget⟩, fun hc => absurd hin hc⟩
  · exact ⟨0, tile_outside_empty v _ _ ox oy hofs (outside_of_not_inside (hin ∘ hiff.mpr)),
      fun hc => absurd hc hin, fun _ => ⟨rfl, hsp.2 hin⟩⟩

end Ase.Proofs.C08
