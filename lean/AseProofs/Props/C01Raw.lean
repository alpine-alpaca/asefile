import AseProofs.Props.C01Tables
/-
  C01, the last step of the `loaded_*` corollaries: the same statements with right-hand sides
  that mention only the raw chunk fields of the program `p` (its frames' chunk lists and the
  fields of the chunk items), not `Spec.framesSem` / `Spec.semItem`.
-/
namespace Ase.Proofs.C01
open Ase Ase.Proofs Ase.Proofs.WholeFile Ase.Proofs.More

def programItems (p : Spec.Program) : List Spec.Item :=
  (p.frames.flatMap (·.chunks)).map (·.item)

def frameItems (p : Spec.Program) (f : Nat) : List Spec.Item :=
  (((p.frames[f]?).map (·.chunks)).getD []).map (·.item)

def programFormat (p : Spec.Program) : PixelFormat := Spec.formatOf p.header.depth p.header.tci

theorem allItems_raw (m : Profile) (p : Spec.Program) :
    allItems (Spec.framesSem m p) = (programItems p).map (Spec.semItem (programFormat p) m) := by
  rw [Spec.framesSem, allItems_framesSem, programItems, List.map_map]
  rfl

theorem itemsAt_raw (m : Profile) (p : Spec.Program) (f : Nat) :
    itemsAt (Spec.framesSem m p) f = (frameItems p f).map (Spec.semItem (programFormat p) m) := by
  unfold itemsAt frameItems Spec.framesSem
  rw [List.getElem?_map]
  cases p.frames[f]? with
  | none => rfl
  | some fr => simp [Spec.frameSem, programFormat]

/-- first colour index and entries of a new-format palette chunk -/
def newPalRaw? : Spec.Item → Option (UInt32 × List Spec.PalEntrySpec)
  | .palette _ first _ es => some (first, es)
  | _ => none

/-- kind (`scaled` = 0x0011, 6-bit components) and packets of a legacy palette chunk -/
def oldPalRaw? : Spec.Item → Option (Bool × List (UInt8 × List (UInt8 × UInt8 × UInt8)))
  | .oldPalette scaled ps => some (scaled, ps)
  | _ => none

/-- **C01, tables**: the palette, over raw chunk fields: the entries `first, first+1, …` of the
    LAST new-format palette chunk if there is one, otherwise the packets of the FIRST legacy
    palette chunk, otherwise none -/
theorem loaded_palette_raw (inflate : Inflate) (m : Profile) (p : Spec.Program)
    (hwf : ProgramWF inflate p) (s : Sprite) (hs : parse inflate m (Spec.encode p) = .ok s) :
    s.palette =
      match ((programItems p).filterMap newPalRaw?).getLast? with
      | some (first, es) => some (Spec.palOfEntries first.toNat Palette.empty es)
      | none =>
          (((programItems p).filterMap oldPalRaw?).head?).map
            (fun r => Spec.oldPackets r.1 0 Palette.empty r.2) := by
  rw [loaded_palette inflate m p hwf s hs, allItems_raw,
    filterMap_semItem _ m palItem? newPalRaw?
      (fun r => Spec.palOfEntries r.1.toNat Palette.empty r.2) (fun it => by cases it <;> rfl),
    filterMap_semItem _ m oldPalItem? oldPalRaw?
      (fun r => Spec.oldPackets r.1 0 Palette.empty r.2) (fun it => by cases it <;> rfl),
    List.getLast?_map, List.head?_map]
  cases ((programItems p).filterMap newPalRaw?).getLast? <;> rfl

/-- a palette builder that inserts the entries `mk id a`, `mk (id+1) a'`, … made from a list:
    colour `i` is made from element `i - first`, on top of what was there before -/
theorem insertSeq_color {α} (mk : Nat → α → PalEntry) (hid : ∀ i a, (mk i a).id = i)
    (build : Nat → Palette → List α → Palette) (hnil : ∀ id q, build id q [] = q)
    (hcons : ∀ id q a t, build id q (a :: t) = build (id + 1) (q.insert (mk id a)) t)
    (es : List α) : ∀ (first : Nat) (q : Palette) (i : Nat),
    (build first q es).color i =
      if first ≤ i ∧ i < first + es.length then (es[i - first]?).map (mk i) else q.color i := by
  induction es with
  | nil =>
      intro first q i
      rw [hnil, if_neg (fun h => Nat.lt_irrefl _ (Nat.lt_of_le_of_lt h.1 h.2))]
  | cons e t ih =>
      intro first q i
      rw [hcons, ih, palette_color_insert, hid, List.length_cons]
      by_cases h1 : first + 1 ≤ i ∧ i < first + 1 + t.length
      · rw [if_pos h1, if_pos (by omega), show i - first = (i - (first + 1)) + 1 by omega,
          List.getElem?_cons_succ]
      · rw [if_neg h1]
        by_cases h3 : first = i
        · subst h3
          simp
        · rw [if_neg h3, if_neg (by omega)]

/-- **C01, tables**: what the new-format builder contains: colour `i` is entry `i - first` of the
    chunk (rgba as stored; the name iff bit 0 of the entry flags), on top of what was there before
    -/
theorem palOfEntries_color (es : List Spec.PalEntrySpec) : ∀ (first : Nat) (q : Palette) (i : Nat),
    (Spec.palOfEntries first q es).color i =
      if first ≤ i ∧ i < first + es.length then
        (es[i - first]?).map (fun e =>
          { id := i, rgba := e.rgba,
            name := if e.flags.toNat % 2 = 1 then some e.name else none })
      else q.color i :=
  insertSeq_color Spec.palEntryOfSpec (fun _ _ => rfl) Spec.palOfEntries (fun _ _ => rfl)
    (fun _ _ _ _ => rfl) es

/-- **C01, tables**: what one legacy packet contains: colour `i` is component triple `i - first`
    (6-bit components scaled to 8 bits when `scaled`), opaque and unnamed, on top of what was there
    before -/
theorem oldEntries_color (scaled : Bool) (cs : List (UInt8 × UInt8 × UInt8)) :
    ∀ (first : Nat) (q : Palette) (i : Nat),
    (Spec.oldEntries scaled first q cs).color i =
      if first ≤ i ∧ i < first + cs.length then
        (cs[i - first]?).map (fun c =>
          { id := i, rgba := ⟨Spec.oldColor scaled c.1, Spec.oldColor scaled c.2.1,
                              Spec.oldColor scaled c.2.2, 255⟩, name := none })
      else q.color i :=
  insertSeq_color _ (fun _ _ => rfl) (Spec.oldEntries scaled) (fun _ _ => rfl)
    (fun _ _ _ _ => rfl) cs

/-- a legacy chunk with a single packet: colours `skip, skip+1, …` -/
theorem oldPackets_single_color (scaled : Bool) (sk : UInt8) (cs : List (UInt8 × UInt8 × UInt8))
    (i : Nat) :
    (Spec.oldPackets scaled 0 Palette.empty [(sk, cs)]).color i =
      if sk.toNat ≤ i ∧ i < sk.toNat + cs.length then
        (cs[i - sk.toNat]?).map (fun c =>
          { id := i, rgba := ⟨Spec.oldColor scaled c.1, Spec.oldColor scaled c.2.1,
                              Spec.oldColor scaled c.2.2, 255⟩, name := none })
      else none := by
  simp only [Spec.oldPackets, Nat.zero_add]
  rw [oldEntries_color]
  rfl

example (inflate : Inflate) (m : Profile) (s : Sprite)
    (hs : parse inflate m (Spec.encode tinyProgram) = .ok s) : s.palette = none := by
  rw [loaded_palette_raw inflate m tinyProgram (tinyProgram_wf inflate) s hs]
  rfl

/-- the `(id, 8 reserved bytes, name)` entries of an external-files chunk -/
def extRawOf : Spec.Item → List (UInt32 × Bytes × Bytes)
  | .extFiles _ fs => fs
  | _ => []

theorem extEntries_raw (fmt : PixelFormat) (m : Profile) (its : List Spec.Item) :
    extEntries (its.map (Spec.semItem fmt m)) = (its.flatMap extRawOf).map Spec.extFileOfSpec := by
  rw [extEntries, List.flatMap_map, List.map_flatMap]
  exact congrArg (List.flatMap · its) (funext fun it => by cases it <;> rfl)

/-- **C01, tables**: external files, over raw chunk fields: looking up `id` finds the LAST entry
    whose id field is `id` among the entries of all external-files chunks of all frames in file
    order, and reports that entry's id and name -/
theorem loaded_extFiles_raw (inflate : Inflate) (m : Profile) (p : Spec.Program)
    (hwf : ProgramWF inflate p) (s : Sprite) (hs : parse inflate m (Spec.encode p) = .ok s)
    (id : Nat) :
    assocGet? id s.extFiles =
      ((((programItems p).flatMap extRawOf).filter (fun e => e.1.toNat == id)).getLast?).map
        (fun e => ({ id := e.1, name := e.2.2 } : ExternalFile)) := by
  rw [loaded_extFiles inflate m p hwf s hs, allItems_raw, extEntries_raw, List.filter_map,
    List.getLast?_map]
  rfl

example (inflate : Inflate) (m : Profile) (s : Sprite)
    (hs : parse inflate m (Spec.encode tinyProgram) = .ok s) (id : Nat) :
    assocGet? id s.extFiles = none := by
  rw [loaded_extFiles_raw inflate m tinyProgram (tinyProgram_wf inflate) s hs]
  rfl

def celSpec? : Spec.Item → Option Spec.CelSpec
  | .cel c => some c
  | _ => none

def rawCelAt (p : Spec.Program) (f l : Nat) : Option Spec.CelSpec :=
  ((frameItems p f).filterMap celSpec?).find? (fun c => c.layer.toNat == l)

theorem findCel_raw (m : Profile) (p : Spec.Program) (f l : Nat) :
    findCel (itemsAt (Spec.framesSem m p) f) l =
      (rawCelAt p f l).map (Spec.celOfSpec (programFormat p)) := by
  unfold findCel rawCelAt celItems
  rw [itemsAt_raw, filterMap_semItem _ m celItem? celSpec? (Spec.celOfSpec (programFormat p))
    (fun it => by cases it <;> rfl), List.find?_map]
  rfl

/-- **C01, tables**: cels, over raw chunk fields: the sprite has a cel under `(f, l)` exactly when
    frame `f` has a cel chunk with layer index `l`, with that chunk's layer index, position and
    opacity; an image cel has the chunk's size and its pixel bytes, grouped by the header's pixel
    format (`rawPixelsOf`) and validated against the sprite's palette with the background flag of
    layer `l`; a linked cel has the chunk's frame number; a tilemap cel the chunk's size, bit masks
    and tile words masked by the tile-id mask.  (At most one cel chunk per layer:
    `sprite_cels_unique`.) -/
theorem loaded_cels_raw (inflate : Inflate) (m : Profile) (p : Spec.Program)
    (hwf : ProgramWF inflate p) (s : Sprite) (hs : parse inflate m (Spec.encode p) = .ok s)
    (f l : Nat) :
    match rawCelAt p f l with
    | none => (s.cels[f]?).bind (FrameCels.get? l) = none
    | some c => ∃ c', (s.cels[f]?).bind (FrameCels.get? l) = some c' ∧
        c'.data = ⟨c.layer, c.x, c.y, c.opacity⟩ ∧
        match c.body with
        | .image w h px _ => ∃ ld px', s.layers[l]? = some ld ∧
            validatePixels s.palette (programFormat p) ld.isBackground
              (Spec.rawPixelsOf (programFormat p) px) = .ok px' ∧
            c'.content = .raw w h px'
        | .linked fr => c'.content = .linked fr
        | .tilemap w h mask tiles _ =>
            c'.content = .tilemap { width := w, height := h,
                                    tiles := (tiles.map (· &&& mask.tileId)).toArray,
                                    mask := mask } := by
  obtain ⟨_, _, _, (hfmt : s.format = programFormat p), _⟩ :=
    loaded_header inflate m p hwf s hs
  have h := loaded_cels inflate m p hwf s hs f l
  rw [findCel_raw] at h
  generalize rawCelAt p f l = o at h ⊢
  cases o with
  | none => exact h
  | some c =>
      obtain ⟨c', h1, h2, h3, h4⟩ := h
      refine ⟨c', h1, h2, ?_⟩
      obtain ⟨layer, x, y, op, res, body⟩ := c
      cases body with
      | image w hh px z =>
          obtain ⟨ld, px', g1, g2, g3⟩ := h4 _ rfl
          refine ⟨ld, px', g1, hfmt ▸ g2, content_ext h3 (fun _ e => ?_)⟩
          cases e
          exact g3
      | linked fr => exact content_ext h3 nofun
      | tilemap w hh mask tiles z => exact content_ext h3 nofun

example (inflate : Inflate) (m : Profile) (s : Sprite)
    (hs : parse inflate m (Spec.encode tinyProgram) = .ok s) :
    ∃ c' ld px', (s.cels[0]?).bind (FrameCels.get? 0) = some c' ∧ c'.data = ⟨0, 0, 0, 255⟩ ∧
      s.layers[0]? = some ld ∧
      validatePixels s.palette (.rgba) ld.isBackground (.rgba #[⟨10, 20, 30, 255⟩]) = .ok px' ∧
      c'.content = .raw 1 1 px' := by
  obtain ⟨c', h1, h2, ld, px', h3, h4, h5⟩ :=
    loaded_cels_raw inflate m tinyProgram (tinyProgram_wf inflate) s hs 0 0
  exact ⟨c', ld, px', h1, h2, h3, h4, h5⟩

def tilesetSpec? : Spec.Item → Option Spec.TilesetSpec
  | .tileset t => some t
  | _ => none

def rawLastTileset (p : Spec.Program) (id : Nat) : Option Spec.TilesetSpec :=
  (((programItems p).filterMap tilesetSpec?).filter (fun t => t.id.toNat == id)).getLast?

theorem lastTileset_raw (m : Profile) (p : Spec.Program) (id : Nat) :
    lastTileset (Spec.framesSem m p) id =
      (rawLastTileset p id).map (Spec.tilesetOfSpec (programFormat p)) := by
  unfold lastTileset rawLastTileset tilesetItems
  rw [allItems_raw, filterMap_semItem _ m tilesetItem? tilesetSpec?
    (Spec.tilesetOfSpec (programFormat p)) (fun it => by cases it <;> rfl), List.filter_map,
    List.getLast?_map]
  rfl

/-- **C01, tables**: tilesets, over raw chunk fields: looking up `id` finds nothing if no tileset
    chunk has that id, and otherwise a tileset with the id, tile count, tile size, base index and
    name of the LAST such chunk, "empty tile is 0" = bit 2 of its flags, the external reference iff
    bit 0; bit 1 (embedded tiles) is set, and the pixels are the chunk's pixel bytes grouped
    according to the header's pixel format and validated against the sprite's palette -/
theorem loaded_tilesets_raw (inflate : Inflate) (m : Profile) (p : Spec.Program)
    (hwf : ProgramWF inflate p) (s : Sprite) (hs : parse inflate m (Spec.encode p) = .ok s)
    (id : Nat) :
    match rawLastTileset p id with
    | none => assocGet? id s.tilesets = none
    | some t => ∃ t', assocGet? id s.tilesets = some t' ∧
        t'.id = t.id ∧ t'.emptyTileIsZero = ((t.flags.toNat / 4) % 2 == 1) ∧
        t'.tileCount = t.count ∧ t'.tileW = t.tw ∧ t'.tileH = t.th ∧ t'.baseIndex = t.base ∧
        t'.name = t.name ∧
        t'.extFile = (if t.flags.toNat % 2 = 1 then some (t.extFile, t.extTileset) else none) ∧
        t.flags.toNat / 2 % 2 = 1 ∧
        ∃ px, validatePixels s.palette (programFormat p) false
                (Spec.rawPixelsOf (programFormat p) t.pixels) = .ok px ∧
              t'.pixels = some px := by
  obtain ⟨_, _, _, (hfmt : s.format = programFormat p), _⟩ :=
    loaded_header inflate m p hwf s hs
  have h := loaded_tilesets inflate m p hwf s hs id
  rw [lastTileset_raw] at h
  generalize rawLastTileset p id = o at h ⊢
  cases o with
  | none => exact h
  | some t =>
      obtain ⟨t', h1, raw, px, g1, g2, rfl⟩ := h
      refine ⟨_, h1, rfl, rfl, rfl, rfl, rfl, rfl, rfl, rfl, ?_⟩
      simp only [Spec.tilesetOfSpec] at g1
      split at g1 <;> cases g1
      exact ⟨‹_›, px, hfmt ▸ g2, rfl⟩

/-- **C01, tables**: layers, over raw chunk fields: up to attached user data, one layer per layer
    chunk in file order with the low 7 bits of its flags, its name, blend mode, opacity, child
    level and its type (0 image, 1 group, otherwise tilemap with the tileset-index field) -/
theorem loaded_layers_raw (inflate : Inflate) (m : Profile) (p : Spec.Program)
    (hwf : ProgramWF inflate p) (s : Sprite) (hs : parse inflate m (Spec.encode p) = .ok s) :
    s.layers.toList.map stripL =
      (programItems p).filterMap (fun it => match it with
        | .layer l => some
            { flags := l.flags.toNat % 128, name := l.name, blendMode := l.blend.toNat,
              opacity := l.opacity,
              layerType := (if l.ltype.toNat = 0 then .image else if l.ltype.toNat = 1 then .group
                            else .tilemap l.tileset),
              childLevel := l.level, userData := none }
        | _ => none) := by
  rw [loaded_layers inflate m p hwf s hs, programLayers, programItems, List.filterMap_map]
  rfl

/-- **C01, tables**: slices, over raw chunk fields: up to attached user data, one slice per slice
    chunk in file order with its name and keys; a key reports the 9-slice centre iff bit 0 of the
    chunk flags is set and the pivot iff bit 1 is set -/
theorem loaded_slices_raw (inflate : Inflate) (m : Profile) (p : Spec.Program)
    (hwf : ProgramWF inflate p) (s : Sprite) (hs : parse inflate m (Spec.encode p) = .ok s) :
    s.slices.toList.map stripS =
      (programItems p).filterMap (fun it => match it with
        | .slice sl => some
            { name := sl.name,
              keys := sl.keys.map (fun k =>
                { fromFrame := k.1, ox := k.2.1, oy := k.2.2.1, w := k.2.2.2.1, h := k.2.2.2.2.1,
                  slice9 := if sl.flags.toNat % 2 = 1 then some k.2.2.2.2.2.1 else none,
                  pivot := if sl.flags.toNat / 2 % 2 = 1 then some k.2.2.2.2.2.2 else none }),
              userData := none }
        | _ => none) := by
  rw [loaded_slices inflate m p hwf s hs, programSlices, programItems, List.filterMap_map]
  rfl

/-- **C01, tables**: tags, over raw chunk fields: up to attached user data, the tags of the LAST
    tags chunk of the FIRST frame (tags chunks of later frames are ignored), each with its name,
    frame range, repeat count and direction byte -/
theorem loaded_tags_raw (inflate : Inflate) (m : Profile) (p : Spec.Program)
    (hwf : ProgramWF inflate p) (s : Sprite) (hs : parse inflate m (Spec.encode p) = .ok s) :
    s.tags.toList.map stripT =
      ((((frameItems p 0).filterMap tagsSpec?).getLast?).getD []).map (fun t =>
        { name := t.name, fromFrame := t.fromFrame, toFrame := t.toFrame,
          repeatCount := t.repeatCount, direction := t.direction.toNat, userData := none }) := by
  rw [loaded_tags inflate m p hwf s hs, programTags]
  obtain ⟨hdr, frames, trailer⟩ := p
  cases frames <;> rfl

/-! ### non-vacuity: `demoProgram` shows the `some` branches for palette, external files,
    tilesets, slices and tags; those for layers and for a raw cel are shown on `tinyProgram`, which
    also shows the `none` and empty ones; the linked and tilemap arms of `loaded_cels_raw` have no
    example -/

/-- the zlib stream (one stored block + Adler-32) of the bytes `1 2 3 4` -/
def demoZ : Bytes := [0x78, 0x01, 0x01, 0x04, 0x00, 0xFB, 0xFF, 1, 2, 3, 4, 0, 0x18, 0, 0x0B]

/-- one RGBA 1×1 frame with a layer, a new-format palette (colours 1, 2), a legacy palette, an
    external-files chunk (id 5 twice), a tileset with one embedded tile, a tags chunk, a slice
    and a raw cel -/
def demoProgram : Spec.Program :=
  { tinyProgram with
    frames := [{ duration := 100, oldCountOnly := false, oldField := 0, ph := 0, slack := 0,
                 chunks := [
                   ⟨.layer ⟨3, 0, 0, 0, 0, 0, 255, 0, 0, [76, 49], 0⟩, []⟩,
                   ⟨.palette 2 1 (zeros 8) [⟨0, ⟨1, 2, 3, 255⟩, []⟩, ⟨1, ⟨4, 5, 6, 255⟩, [65]⟩], []⟩,
                   ⟨.oldPalette false [(0, [(9, 9, 9)])], []⟩,
                   ⟨.extFiles (zeros 8) [(5, zeros 8, [65]), (6, zeros 8, [66]), (5, zeros 8, [67])], []⟩,
                   ⟨.tileset ⟨7, 2, 1, 1, 1, 1, zeros 14, [84], 0, 0, 0, [1, 2, 3, 4], demoZ⟩, []⟩,
                   ⟨.tags (zeros 8) [⟨0, 0, 1, 0, zeros 6, 0, [71]⟩], []⟩,
                   ⟨.slice ⟨1, 0, [83], [(0, 1, 2, 3, 4, ⟨5, 6, 7, 8⟩, (9, 9))]⟩, []⟩,
                   ⟨.cel ⟨0, 0, 0, 255, zeros 7, .image 1 1 [10, 20, 30, 255] none⟩, [7]⟩] }] }

theorem demoProgram_wf (inflate : Inflate) (hz : inflate demoZ = .ok [1, 2, 3, 4]) :
    ProgramWF inflate demoProgram := by
  have h : ProgramWF (fun x => if x = demoZ then .ok [1, 2, 3, 4] else .err .invalid)
      demoProgram := by decide +kernel
  refine h.mono (fun x y hx => ?_)
  by_cases hd : x = demoZ
  · rw [if_pos hd] at hx
    rw [hd, hz, ← hx]
  · rw [if_neg hd] at hx
    cases hx

/-- the demo program loads (so the examples below are not about an impossible hypothesis) -/
theorem demoProgram_loads (inflate : Inflate) (m : Profile)
    (hz : inflate demoZ = .ok [1, 2, 3, 4]) :
    (parse inflate m (Spec.encode demoProgram)).isOk = true :=
  loads_of_sem (demoProgram_wf inflate hz) (by decide +kernel)

section examples
variable (inflate : Inflate) (m : Profile) (s : Sprite)

/-- palette: the new-format chunk wins over the legacy one; colours 1 and 2 are its entries
    (the name only where flag bit 0 is set), colour 0 of the legacy chunk is not there -/
example (hz : inflate demoZ = .ok [1, 2, 3, 4])
    (hs : parse inflate m (Spec.encode demoProgram) = .ok s) :
    ∃ pal, s.palette = some pal ∧ pal.color 1 = some ⟨1, ⟨1, 2, 3, 255⟩, none⟩ ∧
      pal.color 2 = some ⟨2, ⟨4, 5, 6, 255⟩, some [65]⟩ ∧ pal.color 0 = none := by
  refine ⟨_, loaded_palette_raw inflate m demoProgram (demoProgram_wf inflate hz) s hs, ?_, ?_, ?_⟩ <;>
    exact (palOfEntries_color ..).trans rfl

/-- external files: of the two entries with id 5 the last one is found -/
example (hz : inflate demoZ = .ok [1, 2, 3, 4])
    (hs : parse inflate m (Spec.encode demoProgram) = .ok s) :
    assocGet? 5 s.extFiles = some ⟨5, [67]⟩ ∧ assocGet? 6 s.extFiles = some ⟨6, [66]⟩ ∧
      assocGet? 7 s.extFiles = none := by
  have h := loaded_extFiles_raw inflate m demoProgram (demoProgram_wf inflate hz) s hs
  exact ⟨(h 5).trans rfl, (h 6).trans rfl, (h 7).trans rfl⟩

/-- tilesets: id 7 is there with the chunk's fields and its validated pixel; id 0 is not -/
example (hz : inflate demoZ = .ok [1, 2, 3, 4])
    (hs : parse inflate m (Spec.encode demoProgram) = .ok s) :
    (∃ t' px, assocGet? 7 s.tilesets = some t' ∧ t'.id = 7 ∧ t'.tileCount = 1 ∧ t'.tileW = 1 ∧
      t'.tileH = 1 ∧ t'.baseIndex = 1 ∧ t'.name = [84] ∧ t'.extFile = none ∧
      validatePixels s.palette .rgba false (.rgba #[⟨1, 2, 3, 4⟩]) = .ok px ∧
      t'.pixels = some px) ∧
    assocGet? 0 s.tilesets = none := by
  have h := loaded_tilesets_raw inflate m demoProgram (demoProgram_wf inflate hz) s hs
  refine ⟨?_, h 0⟩
  obtain ⟨t', g0, g1, _, g3, g4, g5, g6, g7, g8, _, px, g9, g10⟩ := h 7
  exact ⟨t', px, g0, g1, g3, g4, g5, g6, g7, g8, g9, g10⟩

example (hs : parse inflate m (Spec.encode tinyProgram) = .ok s) (id : Nat) :
    assocGet? id s.tilesets = none :=
  loaded_tilesets_raw inflate m tinyProgram (tinyProgram_wf inflate) s hs id

example (hs : parse inflate m (Spec.encode tinyProgram) = .ok s) :
    s.layers.toList.map stripL = [⟨3, [76, 49], 0, 255, .image, 0, none⟩] := by
  rw [loaded_layers_raw inflate m tinyProgram (tinyProgram_wf inflate) s hs]
  rfl

/-- slices: flags = 1, so the 9-slice centre is reported and the pivot is not -/
example (hz : inflate demoZ = .ok [1, 2, 3, 4])
    (hs : parse inflate m (Spec.encode demoProgram) = .ok s) :
    s.slices.toList.map stripS = [⟨[83], [⟨0, 1, 2, 3, 4, some ⟨5, 6, 7, 8⟩, none⟩], none⟩] := by
  rw [loaded_slices_raw inflate m demoProgram (demoProgram_wf inflate hz) s hs]
  rfl

example (hs : parse inflate m (Spec.encode tinyProgram) = .ok s) :
    s.slices.toList.map stripS = [] := by
  rw [loaded_slices_raw inflate m tinyProgram (tinyProgram_wf inflate) s hs]
  rfl

example (hz : inflate demoZ = .ok [1, 2, 3, 4])
    (hs : parse inflate m (Spec.encode demoProgram) = .ok s) :
    s.tags.toList.map stripT = [⟨[71], 0, 0, 0, 1, none⟩] := by
  rw [loaded_tags_raw inflate m demoProgram (demoProgram_wf inflate hz) s hs]
  rfl

example (hs : parse inflate m (Spec.encode tinyProgram) = .ok s) :
    s.tags.toList.map stripT = [] := by
  rw [loaded_tags_raw inflate m tinyProgram (tinyProgram_wf inflate) s hs]
  rfl

end examples

end Ase.Proofs.C01
