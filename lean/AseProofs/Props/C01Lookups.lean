import Ase.Render
/-
  C01, lookup clauses: "Lookups by name return the lowest-numbered match, optional lookups
  return nothing when out of range, and iteration visits every entity exactly once in index
  order."
-/
namespace Ase.Proofs.C01
open Ase

/-- "the first element with `q` is at `i`", said with checked and with optional indexing -/
theorem first_match_getElem? {α} (a : Array α) (q : α → Prop) (i : Nat) :
    (∃ h : i < a.size, q a[i] ∧ ∀ j (hj : j < i), ¬ q (a[j]'(Nat.lt_trans hj h))) ↔
      (∃ l, a[i]? = some l ∧ q l) ∧ ∀ j < i, ∀ l, a[j]? = some l → ¬ q l := by
  simp only [Array.getElem?_eq_some_iff]
  constructor
  · rintro ⟨h, hq, hall⟩
    exact ⟨⟨_, ⟨h, rfl⟩, hq⟩, fun j hj l ⟨_, hl⟩ => hl ▸ hall j hj⟩
  · rintro ⟨⟨l, ⟨h, rfl⟩, hq⟩, hall⟩
    exact ⟨h, hq, fun j hj => hall j hj _ ⟨Nat.lt_trans hj h, rfl⟩⟩

/-- **C01, lookups**: `layer_by_name` returns the lowest-numbered match -/
theorem layerByName_spec (s : Sprite) (n : Bytes) (i : Nat) :
    s.layerByName n = some i ↔
      ∃ h : i < s.layers.size, s.layers[i].name = n ∧
        ∀ j (hj : j < i), (s.layers[j]'(Nat.lt_trans hj h)).name ≠ n := by
  simp only [Sprite.layerByName, List.findIdx?_eq_some_iff_getElem, Array.length_toList,
    Array.getElem_toList, beq_iff_eq]

/-- the same with optional indexing -/
theorem layerByName_spec' (s : Sprite) (n : Bytes) (i : Nat) :
    s.layerByName n = some i ↔
      (∃ l, s.layers[i]? = some l ∧ l.name = n) ∧
        ∀ j < i, ∀ l, s.layers[j]? = some l → l.name ≠ n :=
  (layerByName_spec s n i).trans (first_match_getElem? s.layers (·.name = n) i)

/-- `layer_by_name` answers `None` exactly when no layer has the name -/
theorem layerByName_none (s : Sprite) (n : Bytes) :
    s.layerByName n = none ↔ ∀ l ∈ s.layers, l.name ≠ n := by
  simp only [Sprite.layerByName, List.findIdx?_eq_none_iff, Array.mem_toList_iff,
    beq_eq_false_iff_ne]

theorem layerByName_lt (s : Sprite) (n : Bytes) (i : Nat) (h : s.layerByName n = some i) :
    i < s.numLayers :=
  ((layerByName_spec s n i).mp h).1

/-- **C01, lookups**: `tag_by_name` returns the lowest-numbered match -/
theorem tagByName_spec (s : Sprite) (n : Bytes) (i : Nat) :
    s.tagByName n = some i ↔
      ∃ h : i < s.tags.size, s.tags[i].name = n ∧
        ∀ j (hj : j < i), (s.tags[j]'(Nat.lt_trans hj h)).name ≠ n := by
  simp only [Sprite.tagByName, List.findIdx?_eq_some_iff_getElem, Array.length_toList,
    Array.getElem_toList, beq_iff_eq]

/-- the same with optional indexing -/
theorem tagByName_spec' (s : Sprite) (n : Bytes) (i : Nat) :
    s.tagByName n = some i ↔
      (∃ t, s.tags[i]? = some t ∧ t.name = n) ∧
        ∀ j < i, ∀ t, s.tags[j]? = some t → t.name ≠ n :=
  (tagByName_spec s n i).trans (first_match_getElem? s.tags (·.name = n) i)

/-- `tag_by_name` answers `None` exactly when no tag has the name -/
theorem tagByName_none (s : Sprite) (n : Bytes) :
    s.tagByName n = none ↔ ∀ t ∈ s.tags, t.name ≠ n := by
  simp only [Sprite.tagByName, List.findIdx?_eq_none_iff, Array.mem_toList_iff,
    beq_eq_false_iff_ne]

/-- **C01, lookups**: `get_tag(i)` is `None` exactly when `i` is out of range.  The Rust is
    `self.tags.get(i)` (`file.rs:239`); the model has no function for it and writes `s.tags[i]?`. -/
theorem getTag_spec (s : Sprite) (i : Nat) : s.tags[i]? = none ↔ s.tags.size ≤ i :=
  Array.getElem?_eq_none_iff

theorem getTag_some (s : Sprite) (i : Nat) (h : i < s.tags.size) : s.tags[i]? = some s.tags[i] :=
  Array.getElem?_eq_getElem h

/-- `tileset(id)`: nothing for an id that was never inserted -/
theorem tileset?_none (s : Sprite) (id : Nat) :
    s.tileset? id = none ↔ ∀ p ∈ s.tilesets, p.1 ≠ id := by
  simp only [Sprite.tileset?, assocGet?, Option.map_eq_none_iff, List.find?_eq_none, beq_iff_eq]

/-- `k` successive calls of `LayersIter::next`, starting in state `state` -/
def iterate (s : Sprite) : Nat → Nat → List (Option Nat)
  | 0, _ => []
  | k + 1, state => (s.layersIterNext state).1 :: iterate s k (s.layersIterNext state).2

theorem iterate_exhausted (s : Sprite) (e state : Nat) (h : s.numLayers ≤ state) :
    iterate s e state = List.replicate e none := by
  induction e with
  | zero => rfl
  | succ e ih =>
      have : ¬ state < s.numLayers := Nat.not_lt.mpr h
      simp only [iterate, Sprite.layersIterNext, this, if_false, List.replicate_succ, ih]

theorem iterate_from (s : Sprite) (e k state : Nat) (h : state + k = s.numLayers) :
    iterate s (k + e) state = (List.range' state k).map some ++ List.replicate e none := by
  induction k generalizing state with
  | zero =>
      rw [Nat.zero_add]
      exact iterate_exhausted s e state (by omega)
  | succ k ih =>
      have hlt : state < s.numLayers := by omega
      rw [Nat.add_right_comm]
      simp only [iterate, Sprite.layersIterNext, hlt, if_true, List.range'_succ, List.map_cons,
        List.cons_append, ih (state + 1) (by omega)]

/-- **C01, lookups**: iteration visits every layer exactly once in index order, then yields `None`
    for ever -/
theorem layersIter_spec (s : Sprite) (e : Nat) :
    iterate s (s.numLayers + e) 0 = (List.range s.numLayers).map some ++ List.replicate e none := by
  rw [iterate_from s e s.numLayers 0 (by omega), List.range_eq_range']

/-- the list `layersIter_spec` gives has no repetition: a fact about `List.range`, in which the
    iterator itself does not occur -/
theorem layersIter_nodup (s : Sprite) : ((List.range s.numLayers).map some).Nodup :=
  List.Pairwise.map some (fun _ _ hab h => hab (Option.some.inj h)) List.nodup_range

/-- the first `numLayers` calls yield exactly the layer indices (`layersIter_spec` at `e = 0`,
    whence the `+ 0`) -/
theorem layersIter_complete (s : Sprite) (i : Nat) :
    some i ∈ iterate s (s.numLayers + 0) 0 ↔ i < s.numLayers := by
  rw [layersIter_spec]
  simp only [List.replicate_zero, List.append_nil, List.mem_map, List.mem_range,
    Option.some.injEq, exists_eq_right]

end Ase.Proofs.C01
