import AseProofs.Lemmas.InflateStored
import AseProofs.Lemmas.InflateVectors
import Ase.Alloc
/-
  Property C12, the inflater side: the total inflater `Ase.ZlibT.inflate` satisfies the
  expansion hypothesis `Alloc.ExpansionBounded` that the allocation theorems assume, its fuel
  is never exhausted, and it inverts the stored-block encoder `Ase.Zlib.deflateStored`.
-/
namespace Ase.Proofs.C12
open Ase

/-- the sharp form of the expansion bound, as it falls out of the invariant `ZlibT.Adv` -/
theorem inflateT_expansion_sharp (z out : Bytes) (h : ZlibT.inflate z = .ok out) :
    out.length + 2064 ≤ 1032 * z.length := by
  unfold ZlibT.inflate at h
  split at h
  · rename_i o ho
    injection h with h1
    subst h1
    have := ZlibT.inflateZlib_size ho
    simp only [ByteArray.size, List.size_toArray, Array.length_toList] at this ⊢
    omega
  · cases h
  · cases h

/-- **C12**, the hypothesis of the footprint theorems for the model's inflater: the output is at
    most 1032 times as long as the input handed over, read or not.  Behind it (`ZlibT.Adv`): 129
    output bytes per consumed bit at most, since a literal costs at least one bit for one byte,
    a match at least two bits for at most 258 bytes, and a stored block copies input bytes. -/
theorem inflateT_expansionBounded : Alloc.ExpansionBounded ZlibT.inflate := fun z out h => by
  have := inflateT_expansion_sharp z out h
  omega

/-- **C12**: the fuel arguments of the three fuelled loops (`codes`, `readLengths`, `blocks`) always
    suffice: the internal out-of-fuel error is never returned -/
theorem inflateT_fuel_suffices (input : ByteArray) :
    ZlibT.inflateZlib input ≠ .error .fuel :=
  (ZlibT.inflateZlib_sat (ZlibT.Ext.refl input)).1

/-- **C01**, the compressed payloads of generated files: round trip of the stored-block encoder
    through the total inflater, for every byte list
    (empty, and longer than one 65535-byte block included); the Adler-32 trailer is checked -/
theorem inflateT_deflateStored (bs : Bytes) : ZlibT.inflate (Zlib.deflateStored bs) = .ok bs := by
  unfold ZlibT.inflate
  rw [ZlibT.inflateZlib_deflateStored]

-- fixed-Huffman block with an overlapping match (zlib level 9 of "hello hello hello")
example :
    ZlibT.inflate [0x78,0xda,0xcb,0x48,0xcd,0xc9,0xc9,0x57,0xc8,0x40,0x90,0x00,0x3a,0x2e,0x06,0x7d]
    = .ok [0x68,0x65,0x6c,0x6c,0x6f,0x20,0x68,0x65,0x6c,0x6c,0x6f,0x20,0x68,0x65,0x6c,0x6c,0x6f] :=
  ZlibT.inflate_hello

-- the same stream, last byte missing / last byte wrong: the two error classes
example :
    ZlibT.inflate [0x78,0xda,0xcb,0x48,0xcd,0xc9,0xc9,0x57,0xc8,0x40,0x90,0x00,0x3a,0x2e,0x06]
    = .err (.io .unexpectedEof) :=
  ZlibT.inflate_hello_short

example :
    ZlibT.inflate [0x78,0xda,0xcb,0x48,0xcd,0xc9,0xc9,0x57,0xc8,0x40,0x90,0x00,0x3a,0x2e,0x06,0x7c]
    = .err (.io (.other 1)) := by
  rw [ZlibT.inflate, ZlibT.inflateZlib, ZlibT.blocks_hello (by decide)]
  decide +kernel

-- empty payload (zlib level 6 of "")
example : ZlibT.inflate [0x78,0x9c,0x03,0x00,0x00,0x00,0x00,0x01] = .ok [] := ZlibT.inflate_empty

-- stored block (zlib level 0 of "stored!")
example :
    ZlibT.inflate [0x78,0x01,0x01,0x07,0x00,0xf8,0xff,0x73,0x74,0x6f,0x72,0x65,0x64,0x21,0x0b,0xef,
      0x02,0xb3]
    = .ok [0x73,0x74,0x6f,0x72,0x65,0x64,0x21] :=
  ZlibT.inflate_stored

-- dynamic-Huffman block (zlib level 9 of 42 bytes over the alphabet "abc")
example :
    ZlibT.inflate [0x78,0xda,0x25,0x88,0x81,0x09,0x00,0x00,0x08,0x83,0x6e,0xd5,0xfe,0xff,0x21,0x23,
      0x10,0x71,0x93,0xc1,0x10,0x2a,0xae,0x53,0xf3,0x1f,0xc3,0xdc,0xbf,0x58,0xcd,0x10,0x0a]
    = .ok [0x62,0x61,0x63,0x61,0x62,0x63,0x61,0x62,0x62,0x61,0x61,0x61,0x63,0x61,0x61,0x61,
      0x62,0x63,0x61,0x61,0x61,0x62,0x62,0x62,0x61,0x62,0x62,0x61,0x61,0x61,0x63,0x62,0x61,0x63,
      0x62,0x62,0x63,0x62,0x61,0x61,0x62,0x63] :=
  ZlibT.inflate_abc

-- a match reaching before the start of the output reads zeros (literal 'a', then length 10
-- at distance 5): accepted, like the streaming decoder with its zero-initialised window
example : ZlibT.inflate [0x78,0x9c,0x4b,0x44,0x10,0x00,0x06,0xdd,0x01,0x24]
    = .ok [0x61,0x00,0x00,0x00,0x00,0x61,0x00,0x00,0x00,0x00,0x61] := by
  decide +kernel

-- what the encoder writes: header `78 01`, one stored block (last, LEN 3, NLEN), the Adler-32
example :
    Zlib.deflateStored [1, 2, 3]
    = [0x78,0x01,0x01,0x03,0x00,0xfc,0xff,1,2,3,0x00,0x0d,0x00,0x07] := by
  decide +kernel

end Ase.Proofs.C12
