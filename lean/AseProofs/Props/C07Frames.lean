import AseProofs.Props.C07
import AseProofs.Lemmas.RunCore
/-
  C07 across frame boundaries.  The user-data context (`ParseInfo.ctx`) is carried from one frame
  to the next: a `.userData` item at the start of frame `k+1` attaches to the context the last
  item of frame `k` left.  The statements of `C07.lean` about a redundant legacy palette and the
  order of cel items hold within one frame or at the end of the file; here they are extended
  over any number of following frames, under the hypothesis (`CtxDead`) that those frames
  overwrite the context before reading it.
-/
namespace Ase.Proofs.C07
open Ase Ase.Proofs Ase.Proofs.C01 Ase.Proofs.WholeFile

/-- the context with which frames `frame, frame+1, …` are entered is never read: scanning their
    items in order, a context-setting item comes before any item that is not context-neutral -/
def CtxDead : Nat → List (UInt16 × List Spec.SItem) → Prop
  | _, [] => True
  | frame, (_, items) :: rest =>
      (∃ mid it tail, items = mid ++ it :: tail ∧ (∀ x ∈ mid, ctxNeutral frame x = true) ∧
        setsCtx frame it = true)
      ∨ ((∀ x ∈ items, ctxNeutral frame x = true) ∧ CtxDead (frame + 1) rest)

/-- `some true`: a context-setting item is reached through context-neutral items only;
    `some false`: an item that may read the context is reached first; `none`: all items are
    context-neutral -/
def scanItems (frame : Nat) : List Spec.SItem → Option Bool
  | [] => none
  | x :: t =>
      if setsCtx frame x then some true
      else if ctxNeutral frame x then scanItems frame t
      else some false

def ctxDeadB : Nat → List (UInt16 × List Spec.SItem) → Bool
  | _, [] => true
  | frame, (_, items) :: rest =>
      match scanItems frame items with
      | some b => b
      | none => ctxDeadB (frame + 1) rest

theorem ctxDead_nil (k : Nat) (d : UInt16) (rest : List (UInt16 × List Spec.SItem)) :
    CtxDead k ((d, []) :: rest) ↔ CtxDead (k + 1) rest := by
  constructor
  · rintro (⟨mid, it, tail, h, _⟩ | ⟨_, h⟩)
    · cases mid <;> cases h
    · exact h
  · exact fun h => Or.inr ⟨fun _ hx => (nomatch hx), h⟩

theorem ctxDead_cons (k : Nat) (d : UInt16) (x : Spec.SItem) (t : List Spec.SItem)
    (rest : List (UInt16 × List Spec.SItem)) :
    CtxDead k ((d, x :: t) :: rest) ↔
      setsCtx k x = true ∨ (ctxNeutral k x = true ∧ CtxDead k ((d, t) :: rest)) := by
  constructor
  · rintro (⟨mid, it, tail, h, hmid, hit⟩ | ⟨hall, hrest⟩)
    · cases mid with
      | nil =>
          cases h
          exact Or.inl hit
      | cons y mid' =>
          cases h
          obtain ⟨hx, hm⟩ := List.forall_mem_cons.mp hmid
          exact Or.inr ⟨hx, Or.inl ⟨mid', it, tail, rfl, hm, hit⟩⟩
    · obtain ⟨hx, ht⟩ := List.forall_mem_cons.mp hall
      exact Or.inr ⟨hx, Or.inr ⟨ht, hrest⟩⟩
  · rintro (hit | ⟨hx, ⟨mid, it, tail, rfl, hmid, hit⟩ | ⟨hall, hrest⟩⟩)
    · exact Or.inl ⟨[], x, t, rfl, fun _ hz => (nomatch hz), hit⟩
    · exact Or.inl ⟨x :: mid, it, tail, rfl, List.forall_mem_cons.mpr ⟨hx, hmid⟩, hit⟩
    · exact Or.inr ⟨List.forall_mem_cons.mpr ⟨hx, hall⟩, hrest⟩

/-- the Boolean scan decides `CtxDead`; it is what `decide` runs on a concrete frame list -/
theorem ctxDeadB_iff : ∀ (frames : List (UInt16 × List Spec.SItem)) (frame : Nat),
    ctxDeadB frame frames = true ↔ CtxDead frame frames
  | [], _ => ⟨fun _ => trivial, fun _ => rfl⟩
  | (d, items) :: rest, k => by
      induction items with
      | nil =>
          rw [ctxDead_nil, ← ctxDeadB_iff rest (k + 1)]
          rfl
      | cons x t ih =>
          rw [ctxDead_cons, ← ih]
          simp only [ctxDeadB, scanItems]
          -- the scan's three outcomes at `x`, by the two flags of `x`
          cases setsCtx k x <;> cases ctxNeutral k x <;> simp

instance (frame : Nat) (frames : List (UInt16 × List Spec.SItem)) :
    Decidable (CtxDead frame frames) :=
  decidable_of_iff _ (ctxDeadB_iff frames frame)

theorem CtxBlind.frames {β} : ∀ (frames : List (UInt16 × List Spec.SItem)) (frame : Nat),
    CtxDead frame frames → ∀ {K : ParseInfo → Res β}, CtxBlind K →
    CtxBlind (fun q => Spec.runFrames frame q frames >>= K)
  | [], _, _, _, hK => hK
  | (d, items) :: rest, frame, hd, K, hK => fun c q => by
      show (Spec.runFrames frame (setCtx c q) ((d, items) :: rest) >>= K) =
        (Spec.runFrames frame q ((d, items) :: rest) >>= K)
      rw [runFrames_cons, runFrames_cons, Res.bind_assoc, Res.bind_assoc]
      rcases hd with ⟨mid, it, tail, rfl, hmid, hit⟩ | ⟨hall, hrest⟩
      · exact CtxBlind.items_overwritten mid it tail hmid hit _ c
          { q with frameTimes := q.frameTimes.set! frame d }
      · exact CtxBlind.items_neutral items hall (CtxBlind.frames rest (frame + 1) hrest hK) c
          { q with frameTimes := q.frameTimes.set! frame d }

/-- **C07** a dead context is unobservable: the loaded sprite (or the error) does not depend on the
    context with which frames that overwrite it before reading it are entered -/
theorem runFrames_ctx_dead (h : Header) (fmt : PixelFormat) :
    ∀ (frames : List (UInt16 × List Spec.SItem)) (frame : Nat) (_ : CtxDead frame frames)
      (c : Option UDCtx) (pi : ParseInfo),
      (Spec.runFrames frame (setCtx c pi) frames >>= validate h fmt) =
        (Spec.runFrames frame pi frames >>= validate h fmt) :=
  fun frames frame hd => CtxBlind.frames frames frame hd (CtxBlind.validate h fmt)

theorem runFrames_split (h : Header) (fmt : PixelFormat) (k : Nat) (d : UInt16) (pi : ParseInfo)
    (a b : List Spec.SItem) (later : List (UInt16 × List Spec.SItem)) :
    (Spec.runFrames k pi ((d, a ++ b) :: later) >>= validate h fmt) =
      (Spec.runFrame k d pi a >>= fun q => Spec.runItems k q b >>= fun q' =>
        Spec.runFrames (k + 1) q' later >>= validate h fmt) := by
  rw [runFrames_cons, Spec.runFrame, runItems_append, Res.bind_assoc, Res.bind_assoc]
  rfl

theorem CtxBlind.tail (h : Header) (fmt : PixelFormat) {k : Nat} (mid : List Spec.SItem)
    (hmid : ∀ y ∈ mid, ctxNeutral k y = true) (later : List (UInt16 × List Spec.SItem))
    (hdead : CtxDead (k + 1) later) :
    CtxBlind (fun q => Spec.runItems k q mid >>= fun q' =>
      Spec.runFrames (k + 1) q' later >>= validate h fmt) :=
  CtxBlind.items_neutral mid hmid (CtxBlind.frames later (k + 1) hdead (CtxBlind.validate h fmt))

/-- the order of cel items is irrelevant, frames following: a block of cel items on distinct
    layers followed, inside frame `k`, by context-neutral items only, and then by frames that
    overwrite the context before reading it, can be permuted without changing the result -/
theorem cel_order_irrelevant_frames_mid (h : Header) (fmt : PixelFormat) (k : Nat) (d : UInt16)
    (pi : ParseInfo) (pre : List Spec.SItem) (cs cs' : List (RawCel RawPixels))
    (hperm : cs.Perm cs')
    (hdistinct : cs.Pairwise (fun a b => a.data.layerIndex.toNat ≠ b.data.layerIndex.toNat))
    (mid : List Spec.SItem) (hmid : ∀ y ∈ mid, ctxNeutral k y = true)
    (later : List (UInt16 × List Spec.SItem)) (hdead : CtxDead (k + 1) later) :
    (Spec.runFrames k pi ((d, pre ++ (cs.map .cel ++ mid)) :: later) >>= validate h fmt) =
      (Spec.runFrames k pi ((d, pre ++ (cs'.map .cel ++ mid)) :: later) >>= validate h fmt) := by
  rw [← List.append_assoc, ← List.append_assoc, runFrames_split, runFrames_split]
  exact cel_order_blind k _ pre cs cs' hperm hdistinct (CtxBlind.tail h fmt mid hmid later hdead)

/-- **C07** the order of cel items is irrelevant, frames following: the cel block at the end of
    frame `k`, then frames that overwrite the context before reading it -/
theorem cel_order_irrelevant_frames (h : Header) (fmt : PixelFormat) (k : Nat) (d : UInt16)
    (pi : ParseInfo) (pre : List Spec.SItem) (cs cs' : List (RawCel RawPixels))
    (hperm : cs.Perm cs')
    (hdistinct : cs.Pairwise (fun a b => a.data.layerIndex.toNat ≠ b.data.layerIndex.toNat))
    (later : List (UInt16 × List Spec.SItem)) (hdead : CtxDead (k + 1) later) :
    (Spec.runFrames k pi ((d, pre ++ cs.map .cel) :: later) >>= validate h fmt) =
      (Spec.runFrames k pi ((d, pre ++ cs'.map .cel) :: later) >>= validate h fmt) := by
  have := cel_order_irrelevant_frames_mid h fmt k d pi pre cs cs' hperm hdistinct []
    (fun _ hy => nomatch hy) later hdead
  simpa only [List.append_nil] using this

/-- redundant legacy palette, frames following: a legacy palette item in frame `k`, at a
    point where a palette is present, followed inside frame `k` by context-neutral items only
    and then by frames that overwrite the context before reading it, can be dropped.  (`hpal`:
    whenever the prefix, run after the frame's duration is stored, succeeds, the state it reaches
    has a palette.) -/
theorem redundant_old_palette_frames_mid (h : Header) (fmt : PixelFormat) (k : Nat) (d : UInt16)
    (pi : ParseInfo) (pre : List Spec.SItem) (p : Palette)
    (hpal : ∀ q0, Spec.runFrame k d pi pre = .ok q0 → ∃ q, q0.palette = some q)
    (mid : List Spec.SItem) (hmid : ∀ y ∈ mid, ctxNeutral k y = true)
    (later : List (UInt16 × List Spec.SItem)) (hdead : CtxDead (k + 1) later) :
    (Spec.runFrames k pi ((d, pre ++ .oldPalette p :: mid) :: later) >>= validate h fmt) =
      (Spec.runFrames k pi ((d, pre ++ mid) :: later) >>= validate h fmt) := by
  rw [List.append_cons, runFrames_split, runFrames_split]
  exact old_palette_blind k _ pre p hpal (CtxBlind.tail h fmt mid hmid later hdead)

/-- **C07** redundant legacy palette, frames following, with the palette present on entry to frame
    `k`: any prefix, the legacy palette, context-neutral items, end of frame `k`, frames that
    overwrite the context before reading it -/
theorem redundant_old_palette_frames_entry (h : Header) (fmt : PixelFormat) (k : Nat) (d : UInt16)
    (pi : ParseInfo) (pre : List Spec.SItem) (p q : Palette) (hpal : pi.palette = some q)
    (mid : List Spec.SItem) (hmid : ∀ y ∈ mid, ctxNeutral k y = true)
    (later : List (UInt16 × List Spec.SItem)) (hdead : CtxDead (k + 1) later) :
    (Spec.runFrames k pi ((d, pre ++ .oldPalette p :: mid) :: later) >>= validate h fmt) =
      (Spec.runFrames k pi ((d, pre ++ mid) :: later) >>= validate h fmt) := by
  refine redundant_old_palette_frames_mid h fmt k d pi pre p ?_ mid hmid later hdead
  intro q0 hq0
  -- a palette once present stays present
  have hrun : Spec.runFrames k pi [(d, pre)] = .ok q0 := by
    rw [runFrames_cons, hq0]
    rfl
  have hq : q0.palette = pre.foldl More.palStep pi.palette := by
    simpa only [allItems, List.flatMap_cons, List.flatMap_nil, List.append_nil] using
      More.runFrames_palette [(d, pre)] hrun
  rw [hq, hpal, More.foldl_palStep]
  cases (pre.filterMap More.palItem?).getLast? <;> exact ⟨_, rfl⟩

/-- redundant legacy palette, frames following: the legacy palette as the only item of frame `k`
    (the form of `redundant_old_palette_at_end`) -/
theorem redundant_old_palette_frames (h : Header) (fmt : PixelFormat) (k : Nat) (d : UInt16)
    (pi : ParseInfo) (p q : Palette) (hpal : pi.palette = some q)
    (later : List (UInt16 × List Spec.SItem)) (hdead : CtxDead (k + 1) later) :
    (Spec.runFrames k pi ((d, [.oldPalette p]) :: later) >>= validate h fmt) =
      (Spec.runFrames k pi ((d, []) :: later) >>= validate h fmt) :=
  redundant_old_palette_frames_entry h fmt k d pi [] p q hpal [] (fun _ hy => nomatch hy) later
    hdead

def exCel : RawCel RawPixels :=
  { data := ⟨0, 0, 0, 255⟩, content := .linked 0, userData := none }

def exUD : UserData := { text := some [104, 105], color := none }

/-- frame 1: palette, no-op, tags (neutral outside frame 0), then a cel, then user data (which
    attaches to that cel); frame 2: only neutral items; frame 3: a layer and its user data -/
def exLater : List (UInt16 × List Spec.SItem) :=
  [(100, [.palette Palette.empty, .noop, .tags [], .cel exCel, .userData exUD]),
   (50, [.noop, .extFiles []]),
   (70, [.layer default, .userData exUD])]

example : CtxDead 1 exLater := by decide

/-- through a frame of neutral items only into the next one -/
example : CtxDead 1 [(100, [.palette Palette.empty, .noop]), (50, [.tags [], .cel exCel, .userData exUD])] := by
  decide

/-- user data first: the context of the previous frame is read -/
example : ¬ CtxDead 1 [(100, [.userData exUD, .cel exCel])] := by decide

/-- … also behind neutral items and a frame boundary -/
example : ¬ CtxDead 1 [(100, [.noop, .tags []]), (50, [.palette Palette.empty, .userData exUD])] := by
  decide

/-- tags are context-setting in frame 0 and neutral elsewhere -/
example : CtxDead 0 [(100, [.tags [], .userData exUD])] := by decide
example : ¬ CtxDead 1 [(100, [.tags [], .userData exUD])] := by decide

/-- a state with a palette, one layer and the context of that layer -/
def exPi : ParseInfo :=
  { ParseInfo.new 2 0 with palette := some Palette.empty, layers := #[default],
                           ctx := some (.layer 0) }

/-- `CtxDead` cannot be dropped: with user data at the start of the next frame a legacy palette
    in front of the frame boundary is observable.  From `exPi` the two runs of item lists end in
    different states (the user data goes to the sprite in one, to the layer in the other). -/
example :
    (Spec.runFrames 0 exPi [(1, [.oldPalette Palette.empty]), (1, [.userData exUD])]).map
        (fun q => q.spriteUserData) = .ok (some exUD) ∧
    (Spec.runFrames 0 exPi [(1, []), (1, [.userData exUD])]).map
        (fun q => q.spriteUserData) = .ok none := by
  constructor <;> rfl

end Ase.Proofs.C07
