import AseProofs.Lemmas.RasterSpec
import AseProofs.Props.C02
/-
  C02 (point-wise)  Every pixel of a frame image is the bottom-to-top composition, at that
  position, of the visible layers' cel pixels.  Raw cels, linked cels and tilemap cels.
-/
namespace Ase.Proofs.C02
open Ase Ase.Proofs

variable {F : Type} (ops : FOps F) (m : Profile)

/-- **C02** (dimensions): a frame image has exactly the canvas dimensions
    (`Ase.Proofs.frameImage_dims` under the property's name) -/
theorem frameImage_dims (s : Sprite) (f : Nat) (img : Image) (h : s.frameImage ops m f = .ok img) :
    img.w = s.width.toNat ∧ img.h = s.height.toNat ∧ img.px.size = s.width.toNat * s.height.toNat :=
  Ase.Proofs.frameImage_dims ops m s f img h

/-- one composition step at `(X, Y)`: if the layer is visible and the (link-resolved) cel
    covers the position, its pixel there is blended over the accumulator with the layer's blend
    mode and the rounded product of layer and cel opacity; otherwise the accumulator is kept.
    Visibility is read at the row key `lc.1`, blend mode and opacity at the cel's own
    `data.layerIndex` (`specWriteCel`): the same layer under `C05.Valid` (`CelOk`), not in
    general. -/
def specStep (s : Sprite) (X Y : Nat) (acc : RGBA) (lc : Nat × RawCel Pixels) : RGBA :=
  match s.isVisible lc.1 with
  | .ok true => specWriteCel ops m s lc.2 X Y acc
  | _ => acc

def specRowPixel (s : Sprite) (row : FrameCels Pixels) (X Y : Nat) : RGBA :=
  row.foldl (specStep ops m s X Y) RGBA.zero

def specFramePixel (s : Sprite) (f : Nat) (X Y : Nat) : RGBA :=
  specRowPixel ops m s (s.cels[f]?.getD []) X Y

/-- `specStep` with blend failures propagated instead of skipped -/
def specStepRes (s : Sprite) (X Y : Nat) (acc : RGBA) (lc : Nat × RawCel Pixels) : Res RGBA :=
  match s.isVisible lc.1 with
  | .ok true => specWriteCelRes ops m s lc.2 X Y acc
  | _ => .ok acc

def specRowPixelRes (s : Sprite) (row : FrameCels Pixels) (X Y : Nat) : Res RGBA :=
  row.foldlM (specStepRes ops m s X Y) RGBA.zero

def specFramePixelRes (s : Sprite) (f : Nat) (X Y : Nat) : Res RGBA :=
  specRowPixelRes ops m s (s.cels[f]?.getD []) X Y

theorem specStep_invisible (s : Sprite) (X Y : Nat) (acc : RGBA) (l : Nat) (c : RawCel Pixels)
    (h : s.isVisible l = .ok false) : specStep ops m s X Y acc (l, c) = acc := by
  simp only [specStep, h]

theorem specStep_visible (s : Sprite) (X Y : Nat) (acc : RGBA) (l : Nat) (c : RawCel Pixels)
    (h : s.isVisible l = .ok true) :
    specStep ops m s X Y acc (l, c) = specWriteCel ops m s c X Y acc := by
  simp only [specStep, h]

theorem frameImageLoop_pointwise_full (s : Sprite) : ∀ (row : FrameCels Pixels) (img img' : Image),
    s.frameImageLoop ops m row img = .ok img' → img.px.size = img.w * img.h →
    ∀ (X Y : Nat), X < img.w → Y < img.h → ∀ acc, img.get X Y = .ok acc →
      img'.get X Y = .ok (row.foldl (specStep ops m s X Y) acc) ∧
      row.foldlM (specStepRes ops m s X Y) acc = .ok (row.foldl (specStep ops m s X Y) acc) := by
  intro row
  induction row with
  | nil =>
      intro img img' h _ X Y _ _ acc hacc
      cases h
      exact ⟨hacc, rfl⟩
  | cons hd tl ih =>
      intro img img' h hsz X Y hX hY acc hacc
      obtain ⟨l, c⟩ := hd
      rw [List.foldl_cons, List.foldlM_cons]
      obtain ⟨img₁, hrest, ⟨hvis, rfl⟩ | ⟨hvis, hw⟩⟩ := frameImageLoop_cons_eq_ok ops m h
      · simp only [specStep, specStepRes, hvis, Res.bind_ok]
        exact ih _ _ hrest hsz X Y hX hY acc hacc
      · have hd := writeCel_dims ops m s _ _ _ hw
        obtain ⟨g1, g2⟩ := writeCel_pointwise_full ops m s img img₁ c hw hsz X Y hX hY acc hacc
        simp only [specStep, specStepRes, hvis, g2, Res.bind_ok]
        exact ih _ _ hrest (hd.size hsz) X Y (hd.1 ▸ hX) (hd.2.1 ▸ hY) _ g1

/-- `frameImage_spec` with failures propagated: in a produced frame image no blend of the
    specification fails, so the "keep the accumulator" default of `blendOr` inside
    `specFramePixel` is never taken -/
theorem frameImage_spec_res (s : Sprite) (f : Nat) (img : Image) (h : s.frameImage ops m f = .ok img)
    (X Y : Nat) (hX : X < s.width.toNat) (hY : Y < s.height.toNat) :
    img.get X Y = specFramePixelRes ops m s f X Y ∧
    specFramePixelRes ops m s f X Y = .ok (specFramePixel ops m s f X Y) := by
  unfold Sprite.frameImage at h
  unfold specFramePixelRes specRowPixelRes specFramePixel specRowPixel
  split at h
  · cases h
  · rename_i row hrow
    rw [hrow]
    obtain ⟨g1, g2⟩ := frameImageLoop_pointwise_full ops m s row s.canvas img h (canvas_size s) X Y
      hX hY RGBA.zero (canvas_get s hX hY)
    exact ⟨g1.trans g2.symm, g2⟩

/-- **C02, point-wise**: when the frame image is produced, its pixel at every canvas position
    `(X, Y)` is the fold, in row order (increasing layer order in a loaded sprite:
    `C01.sprite_cels_sorted`) and starting from the transparent pixel, of "blend this cel's pixel
    at `(X, Y)` if its layer is visible and the cel covers `(X, Y)`".
    Raw, linked and tilemap cels, all blend modes, both build profiles. -/
theorem frameImage_spec (s : Sprite) (f : Nat) (img : Image) (h : s.frameImage ops m f = .ok img)
    (X Y : Nat) (hX : X < s.width.toNat) (hY : Y < s.height.toNat) :
    img.get X Y = .ok (specFramePixel ops m s f X Y) :=
  let ⟨g1, g2⟩ := frameImage_spec_res ops m s f img h X Y hX hY
  g1.trans g2

/-- the same for a frame whose cel table is given -/
theorem frameImage_spec_compose (s : Sprite) (f : Nat) (row : FrameCels Pixels)
    (hrow : s.cels[f]? = some row) (hlayers : ∀ p ∈ row, p.1 < s.numLayers) (img : Image)
    (h : s.frameImage ops m f = .ok img)
    (X Y : Nat) (hX : X < s.width.toNat) (hY : Y < s.height.toNat) :
    img.get X Y = .ok (specRowPixel ops m s row X Y) := by
  -- `hlayers` (the hypothesis of `frameImage_compose`) is not needed for the pixels
  have _ := hlayers
  have := frameImage_spec ops m s f img h X Y hX hY
  rwa [specFramePixel, hrow] at this

/-- `specRowPixel` of a row with a single visible raw cel: inside the cel rectangle `blendOr` of
    the stored pixel over the transparent pixel, outside transparent; `C17.over_transparent`
    turns that blend into the scaled alpha of `C06.celImage_spec` -/
theorem specRowPixel_single_raw (s : Sprite) (l : Nat) (c : RawCel Pixels) (w h : UInt16)
    (px : Pixels) (rgba : Array RGBA) (layer : LayerData) (hvis : s.isVisible l = .ok true)
    (hraw : c.content = .raw w h px) (hrgba : pixelsToRgba s.palette px = .ok rgba)
    (hlayer : s.layers[c.data.layerIndex.toNat]? = some layer) (X Y : Nat) :
    specRowPixel ops m s [(l, c)] X Y =
      if InRect c.data.x.toInt c.data.y.toInt w.toNat h.toNat X Y then
        blendOr ops m layer.blendMode
          (Blend.mulUn8 (Blend.ch layer.opacity) (Blend.ch c.data.opacity)) RGBA.zero
          rgba[((Y : Int) - c.data.y.toInt).toNat * w.toNat + ((X : Int) - c.data.x.toInt).toNat]?
      else RGBA.zero := by
  have hnl : ∀ f, c.content ≠ .linked f := by
    intro f hf
    rw [hraw] at hf
    cases hf
  simp only [specRowPixel, List.foldl_cons, List.foldl_nil, specStep, hvis]
  rw [specWriteCel_direct ops m s c hnl, specCel_raw ops m s c w h px rgba layer hraw hrgba hlayer]

end Ase.Proofs.C02
