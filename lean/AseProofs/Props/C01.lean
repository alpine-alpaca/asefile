import Ase.Spec.Sem
import AseProofs.Lemmas.RoundTrip
/-
  C01  The decoded sprite structure equals what the file encodes: the per-chunk and framing
  round trips.  Every chunk decoder, run the way `processChunk` calls it (`runChunk`) on the bytes
  `Spec.enc… v` followed by arbitrary padding, returns the value `v` describes, under the stated
  side conditions (what the decoder refuses is the subject of C15); a decoder that hands the rest
  of the chunk to the inflater has the padding in the inflater's input.  `tagOfSpec`, `KeySpec`,
  `sliceKeyOfSpec`, `palEntryOfSpec`, `extFileOfSpec`, `rawPixelsOf`, `oldColor` are the `Spec.*`
  functions of the same names once more (equal by `rfl`, `C01Frames.lean`).  The statements on
  tags, palette entries, external files and legacy colours use the local copy, those on slice keys
  and pixels `Spec.*` (the local `sliceKeyOfSpec` and `rawPixelsOf` occur in no statement).

  Side conditions of three kinds recur: `reserved.length = n` are the `n` bytes the decoder
  skips; a bound 65536 or 4294967296 on a list's length is the width of its count field; a string
  comes with `length < 65536` (its `u16` length prefix) and `validUtf8` (`readString`, the
  Rust `AseReader::string`, refuses anything else).
-/
namespace Ase.Proofs.C01
open Ase Ase.Proofs

theorem layerType_reads (ty : UInt16) (ts : UInt32) (h : ty.toNat ≤ 2) :
    Reads (parseLayerType ty) (if ty.toNat = 2 then u32le ts else [])
      (if ty.toNat = 0 then .image else if ty.toNat = 1 then .group else .tilemap ts) := by
  have h3 : ty.toNat = 0 ∨ ty.toNat = 1 ∨ ty.toNat = 2 := by omega
  intro r
  rcases h3 with h | h | h <;> simp only [rd, parseLayerType, h, Nat.reduceEqDiff]

/-- **C01, round trip**: the flags come back cut to the seven documented bits (`Spec.layerOfSpec`:
    `flags % 128`), every other field as stored.  `hty`: `parseLayerType` refuses a type above 2;
    `hbl`: `parseBlendMode` refuses a mode above 18. -/
theorem layer_roundtrip (l : Spec.LayerSpec) (pad : Bytes) (hname : l.name.length < 65536)
    (hutf : validUtf8 l.name = true) (hty : l.ltype.toNat ≤ 2) (hbl : l.blend.toNat ≤ 18) :
    runChunk parseLayerChunk (Spec.encLayer l ++ pad) = .ok (Spec.layerOfSpec l) := by
  simp only [rd, runChunk, parseLayerChunk, Spec.encLayer, Spec.layerOfSpec, hname, hutf,
    (layerType_reads l.ltype l.tileset hty).bind_eq, parseBlendMode, hbl]

/-- **C01, round trip**: the text is reported iff bit 0 of the flags is set, the colour iff bit 1 -/
theorem userData_roundtrip (flags : UInt32) (text : Bytes) (color : RGBA) (pad : Bytes)
    (hlen : flags.toNat % 2 = 1 → text.length < 65536)
    (hutf : flags.toNat % 2 = 1 → validUtf8 text = true) :
    runChunk parseUserDataChunk (Spec.encUserData flags text color ++ pad) =
      .ok (Spec.userDataOfSpec flags text color) := by
  by_cases h0 : flags.toNat % 2 = 1 <;>
    simp only [rd, runChunk, parseUserDataChunk, Spec.encUserData, Spec.userDataOfSpec, h0, hlen,
      hutf]

def tagOfSpec (t : Spec.TagSpec) : Tag :=
  { name := t.name, fromFrame := t.fromFrame, toFrame := t.toFrame, repeatCount := t.repeatCount,
    direction := t.direction.toNat, userData := none }

/-- six reserved bytes; `parseTag` refuses a direction above 2; the name is a string -/
def TagOk (t : Spec.TagSpec) : Prop :=
  t.reserved.length = 6 ∧ t.direction.toNat ≤ 2 ∧ t.name.length < 65536 ∧ validUtf8 t.name = true

instance (t : Spec.TagSpec) : Decidable (TagOk t) := by unfold TagOk; infer_instance

theorem tag_reads (t : Spec.TagSpec) (h : TagOk t) :
    Reads parseTag (Spec.encTag t) (tagOfSpec t) := fun r => by
  simp only [rd, parseTag, Spec.encTag, h.1, h.2.1, h.2.2.1, h.2.2.2, tagOfSpec]

theorem tags_roundtrip (reserved : Bytes) (ts : List Spec.TagSpec) (pad : Bytes)
    (hres : reserved.length = 8) (hlen : ts.length < 65536) (hts : ∀ t ∈ ts, TagOk t) :
    runChunk parseTagsChunk (Spec.encTags reserved ts ++ pad) = .ok (ts.map tagOfSpec) := by
  simp only [rd, runChunk, parseTagsChunk, Spec.encTags, hres, UInt16.toNat_ofNat_of_lt' hlen,
    Reads.rdRepeat fun t ht => tag_reads t (hts t ht)]

abbrev KeySpec := UInt32 × Int32 × Int32 × UInt32 × UInt32 × Slice9 × (Int32 × Int32)

def sliceKeyOfSpec (flags : UInt32) (k : KeySpec) : SliceKey :=
  { fromFrame := k.1, ox := k.2.1, oy := k.2.2.1, w := k.2.2.2.1, h := k.2.2.2.2.1,
    slice9 := if flags.toNat % 2 = 1 then some k.2.2.2.2.2.1 else none,
    pivot := if flags.toNat / 2 % 2 = 1 then some k.2.2.2.2.2.2 else none }

theorem sliceKey_reads (flags : UInt32) (k : KeySpec) :
    Reads (parseSliceKey flags) (Spec.encSliceKey flags k) (Spec.sliceKeyOfSpec flags k) :=
  fun r => by
  simp only [rd, parseSliceKey, Spec.encSliceKey, Spec.sliceKeyOfSpec]

theorem slice_roundtrip (s : Spec.SliceSpec) (pad : Bytes) (hkeys : s.keys.length < 4294967296)
    (hlen : s.name.length < 65536) (hutf : validUtf8 s.name = true) :
    runChunk parseSliceChunk (Spec.encSlice s ++ pad) = .ok (Spec.sliceOfSpec s) := by
  simp only [rd, runChunk, parseSliceChunk, Spec.encSlice, Spec.sliceOfSpec, hlen, hutf,
    UInt32.toNat_ofNat_of_lt' hkeys, (Reads.rdRepeat fun k _ => sliceKey_reads s.flags k).bind_eq]

def palEntryOfSpec (id : Nat) (e : Spec.PalEntrySpec) : PalEntry :=
  { id := id, rgba := e.rgba, name := if e.flags.toNat % 2 = 1 then some e.name else none }

def PalEntryOk (e : Spec.PalEntrySpec) : Prop :=
  e.flags.toNat % 2 = 1 → e.name.length < 65536 ∧ validUtf8 e.name = true

instance (e : Spec.PalEntrySpec) : Decidable (PalEntryOk e) := by unfold PalEntryOk; infer_instance

theorem palEntry_reads (id : Nat) (e : Spec.PalEntrySpec) (h : PalEntryOk e) :
    Reads (parsePaletteEntry id) (Spec.encPalEntry e) (palEntryOfSpec id e) := fun r => by
  simp only [rd, parsePaletteEntry, Spec.encPalEntry, palEntryOfSpec]
  by_cases h0 : e.flags.toNat % 2 = 1
  · simp only [rd, h0, (h h0).1, (h h0).2]
  · simp only [rd, h0]

theorem palEntries_reads (es : List Spec.PalEntrySpec) (id : Nat) (p : Palette)
    (h : ∀ e ∈ es, PalEntryOk e) :
    Reads (parsePaletteEntries es.length id p) (es.map Spec.encPalEntry).flatten
      (Spec.palOfEntries id p es) := by
  induction es generalizing id p with
  | nil => exact fun _ => rfl
  | cons e t ih =>
      intro r
      rw [List.forall_mem_cons] at h
      rw [List.length_cons, List.map_cons, List.flatten_cons, List.append_assoc,
        parsePaletteEntries, (palEntry_reads id e h.1).bind_eq]
      exact ih _ _ h.2 r

/-- **C01, round trip**: the new palette chunk; `es` are the entries `first, first+1, …`, inserted
    in this order -/
theorem palette_roundtrip (total first : UInt32) (reserved : Bytes) (es : List Spec.PalEntrySpec)
    (pad : Bytes) (hres : reserved.length = 8) (hne : es ≠ [])
    (hlast : first.toNat + es.length - 1 < 4294967296) (hes : ∀ e ∈ es, PalEntryOk e) :
    runChunk parsePaletteChunk (Spec.encPalette total first reserved es ++ pad)
      = .ok (Spec.palOfEntries first.toNat Palette.empty es) := by
  -- the chunk stores the first and the last index; the decoder reads `last - first + 1` entries
  have hpos : 0 < es.length := List.length_pos_iff.mpr hne
  have hcount : first.toNat + es.length - 1 - first.toNat + 1 = es.length := by omega
  have hnlt : ¬ first.toNat + es.length - 1 < first.toNat := by omega
  simp only [rd, runChunk, parsePaletteChunk, Spec.encPalette, hres,
    UInt32.toNat_ofNat_of_lt' hlast, hnlt, hcount,
    palEntries_reads es first.toNat Palette.empty hes]

def extFileOfSpec (f : UInt32 × Bytes × Bytes) : ExternalFile := { id := f.1, name := f.2.2 }

def ExtFileOk (f : UInt32 × Bytes × Bytes) : Prop :=
  f.2.1.length = 8 ∧ f.2.2.length < 65536 ∧ validUtf8 f.2.2 = true

instance (f : UInt32 × Bytes × Bytes) : Decidable (ExtFileOk f) := by
  unfold ExtFileOk; infer_instance

theorem extFile_reads (f : UInt32 × Bytes × Bytes) (h : ExtFileOk f) :
    Reads parseExternalFile (Spec.encExtFile f) (extFileOfSpec f) := fun r => by
  simp only [rd, parseExternalFile, Spec.encExtFile, h.1, h.2.1, h.2.2, extFileOfSpec]

theorem extFiles_roundtrip (reserved : Bytes) (fs : List (UInt32 × Bytes × Bytes)) (pad : Bytes)
    (hres : reserved.length = 8) (hlen : fs.length < 4294967296) (hfs : ∀ f ∈ fs, ExtFileOk f) :
    runChunk parseExternalFilesChunk (Spec.encExtFiles reserved fs ++ pad)
      = .ok (fs.map extFileOfSpec) := by
  simp only [rd, runChunk, parseExternalFilesChunk, Spec.encExtFiles, hres,
    UInt32.toNat_ofNat_of_lt' hlen, Reads.rdRepeat fun f hf => extFile_reads f (hfs f hf)]

/-- **C01, round trip**: profile types 0 (none) and 1 (sRGB) without the fixed-gamma flag are
    accepted -/
theorem colorProfile_roundtrip (ptype flags : UInt16) (gamma : UInt32) (reserved pad : Bytes)
    (hres : reserved.length = 8) (hty : ptype.toNat ≤ 1) (hfl : flags.toNat % 2 = 0) :
    runChunk parseColorProfileChunk (Spec.encColorProfile ptype flags gamma reserved ++ pad)
      = .ok () := by
  have h1 : ¬ ptype.toNat > 2 := by omega
  have h2 : ¬ ptype.toNat = 2 := by omega
  simp only [rd, runChunk, parseColorProfileChunk, Spec.encColorProfile, hres, h1, h2, hfl,
    Nat.zero_ne_one]

/-- what `RawPixels::from_bytes` returns on a buffer of the right length -/
def rawPixelsOf (fmt : PixelFormat) (bytes : Bytes) : RawPixels :=
  match fmt with
  | .indexed _ => .indexed bytes.toArray
  | .grayscale => .gray (groupGray bytes).toArray
  | .rgba => .rgba (groupRgba bytes).toArray

variable (inflate : Inflate) (fmt : PixelFormat)

theorem pixelsFromBytes_ok (px : Bytes) (n : Nat)
    (h : px.length = fmt.bpp * n) : pixelsFromBytes fmt px = .ok (Spec.rawPixelsOf fmt px) := by
  cases fmt <;>
    simp only [pixelsFromBytes, Spec.rawPixelsOf, h, PixelFormat.bpp, Nat.mul_mod_right,
      bne_self_eq_false, Bool.false_eq_true, if_false]

theorem bpp_range : 1 ≤ fmt.bpp ∧ fmt.bpp ≤ 4 := by
  cases fmt <;> simp only [PixelFormat.bpp] <;> omega

theorem cel_size_lt (w h : UInt16) : fmt.bpp * (w.toNat * h.toNat) < usizeLimit := by
  have h1 : w.toNat * h.toNat ≤ 65535 * 65535 :=
    Nat.mul_le_mul (Nat.le_of_lt_succ w.toNat_lt) (Nat.le_of_lt_succ h.toNat_lt)
  exact Nat.lt_of_le_of_lt (Nat.mul_le_mul (bpp_range fmt).2 h1) (by decide)

theorem takeBytes_reads (n : Nat) (px : Bytes) (h : px.length = n) :
    Reads (takeBytes n) px px := by
  subst h
  intro r
  rw [takeBytes, if_pos (by rw [List.length_append]; exact Nat.le_add_right _ _),
    List.take_left' rfl, List.drop_left' rfl]

theorem unzip_ok (n : Nat) (zs out : Bytes) (hz : inflate zs = .ok out)
    (hlen : out.length = n) : unzip inflate n zs = .ok (out, []) := by
  simp only [unzip, hz, hlen, bne_self_eq_false, Bool.false_eq_true, if_false]

theorem pixelsFromCompressed_ok (n : Nat) (zs px : Bytes)
    (hn : fmt.bpp * n < usizeLimit) (hz : inflate zs = .ok px) (hpx : px.length = fmt.bpp * n) :
    pixelsFromCompressed inflate fmt n zs = .ok (Spec.rawPixelsOf fmt px, []) := by
  simp only [rd, pixelsFromCompressed, outputSize, hn,
    RdS.bind_ok (unzip_ok inflate _ zs px hz hpx), pixelsFromBytes_ok fmt px n hpx]

/-- `r` is what the body decoder leaves: the padding, or nothing behind a compressed stream -/
theorem cel_roundtrip_of_body (c : Spec.CelSpec) (pad r : Bytes) (hres : c.reserved.length = 7)
    (h : parseCelContent inflate fmt (Spec.celType c.body) (Spec.encCelBody c.body ++ pad) =
      .ok (Spec.celContentOfSpec fmt c.body, r)) :
    runChunk (parseCelChunk inflate fmt) (Spec.encCel c ++ pad) = .ok (Spec.celOfSpec fmt c) := by
  simp only [rd, runChunk, parseCelChunk, Spec.encCel, hres, RdS.bind_ok h, Spec.celOfSpec]

theorem cel_linked_roundtrip (c : Spec.CelSpec)
    (f : UInt16) (pad : Bytes) (hres : c.reserved.length = 7) (hbody : c.body = .linked f) :
    runChunk (parseCelChunk inflate fmt) (Spec.encCel c ++ pad) = .ok (Spec.celOfSpec fmt c) := by
  refine cel_roundtrip_of_body inflate fmt c pad pad hres ?_
  simp only [rd, hbody, Spec.celType, Spec.encCelBody, Spec.celContentOfSpec, parseCelContent,
    UInt16.reduceToNat]

/-- **C01, round trip**: raw image cel (type 0); `hpx`: the decoder takes exactly `bpp * (w * h)`
    bytes as the pixels -/
theorem cel_raw_roundtrip (c : Spec.CelSpec)
    (w h : UInt16) (px pad : Bytes) (hres : c.reserved.length = 7)
    (hbody : c.body = .image w h px none)
    (hpx : px.length = fmt.bpp * (w.toNat * h.toNat)) :
    runChunk (parseCelChunk inflate fmt) (Spec.encCel c ++ pad) = .ok (Spec.celOfSpec fmt c) := by
  refine cel_roundtrip_of_body inflate fmt c pad pad hres ?_
  simp only [rd, hbody, Spec.celType, Spec.encCelBody, Spec.celContentOfSpec, parseCelContent,
    UInt16.reduceToNat, pixelsFromRaw, outputSize, cel_size_lt fmt w h,
    (takeBytes_reads _ px hpx).bind_eq, pixelsFromBytes_ok fmt px _ hpx]

/-- **C01, round trip**: compressed image cel (type 2): the inflater sees the stream followed by
    the padding; `hpx`: `unzip` refuses an output whose length is not `bpp * (w * h)` -/
theorem cel_compressed_roundtrip (c : Spec.CelSpec)
    (w h : UInt16) (px z pad : Bytes) (hres : c.reserved.length = 7)
    (hbody : c.body = .image w h px (some z))
    (hz : inflate (z ++ pad) = .ok px)
    (hpx : px.length = fmt.bpp * (w.toNat * h.toNat)) :
    runChunk (parseCelChunk inflate fmt) (Spec.encCel c ++ pad) = .ok (Spec.celOfSpec fmt c) := by
  refine cel_roundtrip_of_body inflate fmt c pad [] hres ?_
  simp only [rd, hbody, Spec.celType, Spec.encCelBody, Spec.celContentOfSpec, parseCelContent,
    UInt16.reduceToNat, RdS.bind_ok
    (pixelsFromCompressed_ok inflate fmt _ (z ++ pad) px (cel_size_lt fmt w h) hz hpx)]

theorem groupTiles_enc (mask : UInt32) (tiles : List UInt32) :
    groupTiles mask ((tiles.map u32le).flatten) = tiles.map (· &&& mask) := by
  induction tiles with
  | nil => rfl
  | cons t ts ih =>
      rw [List.map_cons, List.flatten_cons, List.map_cons, ← ih]
      exact congrArg (fun x => (x &&& mask) :: _) (le32_split t)

theorem length_flatten_u32le : ∀ tiles : List UInt32,
    ((tiles.map u32le).flatten).length = 4 * tiles.length
  | [] => rfl
  | t :: ts => by
      rw [List.map_cons, List.flatten_cons, List.length_append, u32le_length,
        length_flatten_u32le ts, List.length_cons, Nat.mul_succ, Nat.add_comm]

/-- **C01, round trip**: tilemap cel (type 3): the reported tile ids are the stored words masked by
    the tile-id mask; `hlen`: `unzip` refuses an output that is not four bytes for each of the
    `w * h` tiles.  The prime marks no variant: there is no unprimed `cel_tilemap_roundtrip`. -/
theorem cel_tilemap_roundtrip' (c : Spec.CelSpec)
    (w h : UInt16) (mask : TileBitmask) (tiles : List UInt32) (z pad : Bytes)
    (hres : c.reserved.length = 7) (hbody : c.body = .tilemap w h mask tiles z)
    (hz : inflate (z ++ pad) = .ok ((tiles.map u32le).flatten))
    (hlen : tiles.length = w.toNat * h.toNat) :
    runChunk (parseCelChunk inflate fmt) (Spec.encCel c ++ pad) = .ok (Spec.celOfSpec fmt c) := by
  have hl : ((tiles.map u32le).flatten).length = 4 * (w.toNat * h.toNat) := by
    rw [length_flatten_u32le, hlen]
  refine cel_roundtrip_of_body inflate fmt c pad [] hres ?_
  simp only [rd, hbody, Spec.celType, Spec.encCelBody, Spec.celContentOfSpec, Spec.encMask,
    parseCelContent, parseTilemap, UInt16.reduceToNat, bne_self_eq_false, Bool.false_eq_true,
    zeros_length, RdS.bind_ok (unzip_ok inflate _ (z ++ pad) _ hz hl), groupTiles_enc]

/-- a colour component as reported: the 6-bit components of the 0x0011 chunk scaled to 8 bits -/
def oldColor (scaled : Bool) (c : UInt8) : UInt8 :=
  if scaled then UInt8.ofNat ((c.toNat * 4) % 256 + c.toNat / 16) else c

def OldColorOk (scaled : Bool) (c : UInt8 × UInt8 × UInt8) : Prop :=
  scaled = true → c.1.toNat < 64 ∧ c.2.1.toNat < 64 ∧ c.2.2.toNat < 64

def OldPacketOk (scaled : Bool) (pk : UInt8 × List (UInt8 × UInt8 × UInt8)) : Prop :=
  1 ≤ pk.2.length ∧ pk.2.length ≤ 256 ∧ ∀ c ∈ pk.2, OldColorOk scaled c

instance (s : Bool) (pk : UInt8 × List (UInt8 × UInt8 × UInt8)) :
    Decidable (OldPacketOk s pk) := by
  unfold OldPacketOk OldColorOk; infer_instance

/-- stated on `c :: r`, the form the input has once an entry's three bytes are consed onto the
    rest -/
theorem oldColor_roundtrip (scaled : Bool) (c : UInt8) (r : Bytes)
    (h : scaled = true → c.toNat < 64) :
    parseOldColor scaled (c :: r) = .ok (oldColor scaled c, r) := by
  cases scaled with
  | false => rfl
  | true => simp only [rd, parseOldColor, oldColor, scale6, Nat.not_le.mpr (h rfl)]

theorem oldEntries_reads (scaled : Bool) (cs : List (UInt8 × UInt8 × UInt8)) (id : Nat)
    (p : Palette) (h : ∀ c ∈ cs, OldColorOk scaled c) :
    Reads (parseOldEntries scaled cs.length id p) (cs.map (fun (r, g, b) => [r, g, b])).flatten
      (Spec.oldEntries scaled id p cs) := by
  induction cs generalizing id p with
  | nil => exact fun _ => rfl
  | cons c t ih =>
      intro rest
      obtain ⟨r, g, b⟩ := c
      obtain ⟨hc, ht⟩ := List.forall_mem_cons.mp h
      simp only [List.length_cons, List.map_cons, List.flatten_cons, List.cons_append,
        List.nil_append, parseOldEntries]
      rw [RdS.bind_ok (oldColor_roundtrip scaled r _ fun hs => (hc hs).1),
        RdS.bind_ok (oldColor_roundtrip scaled g _ fun hs => (hc hs).2.1),
        RdS.bind_ok (oldColor_roundtrip scaled b _ fun hs => (hc hs).2.2)]
      exact ih _ _ ht rest

/-- the packet loop from a running `skip`: every packet moves `skip` by at most 255 and its
    entries end at most 256 behind it, so under the bound neither `u32Add` overflows -/
theorem oldPackets_reads (m : Profile) (scaled : Bool)
    (ps : List (UInt8 × List (UInt8 × UInt8 × UInt8))) (skip : Nat) (p : Palette)
    (h : ∀ pk ∈ ps, OldPacketOk scaled pk) (hb : skip + 255 * ps.length + 256 < 4294967296) :
    Reads (parseOldPackets m scaled ps.length skip p) (ps.map Spec.encOldPacket).flatten
      (Spec.oldPackets scaled skip p ps) := by
  induction ps generalizing skip p with
  | nil => exact fun _ => rfl
  | cons pk t ih =>
      intro rest
      obtain ⟨sk, cs⟩ := pk
      obtain ⟨⟨h1, h256, hcs⟩, ht⟩ := List.forall_mem_cons.mp h
      dsimp only at h1 h256 -- `(sk, cs).2.length` to `cs.length`, for `omega`
      rw [List.length_cons] at hb
      have hsk := sk.toNat_lt
      -- the count byte: `n % 256` is written for `1 ≤ n ≤ 256`, and 0 is read as 256
      have hcount : (if cs.length % 256 = 0 then 256 else cs.length % 256) = cs.length := by
        split <;> omega
      simp only [rd, List.length_cons, List.map_cons, List.flatten_cons, Spec.encOldPacket,
        parseOldPackets, u32Add_ok m (a := skip) (b := sk.toNat) (by omega),
        UInt8.toNat_ofNat', Nat.mod_mod, hcount,
        u32Add_ok m (a := cs.length) (b := skip + sk.toNat) (by omega),
        (oldEntries_reads scaled cs (skip + sk.toNat) p hcs).bind_eq]
      exact ih _ _ ht (by omega) rest

/-- **C01, round trip**: legacy palette chunks: the palette built packet by packet at the
    cumulative skip offsets; no overflow check fires in either build profile -/
theorem oldPalette_roundtrip (m : Profile) (scaled : Bool)
    (ps : List (UInt8 × List (UInt8 × UInt8 × UInt8))) (pad : Bytes)
    (hlen : ps.length < 65536) (hps : ∀ pk ∈ ps, OldPacketOk scaled pk) :
    runChunk (parseOldPaletteChunk m scaled) (Spec.encOldPalette ps ++ pad)
      = .ok (Spec.oldPackets scaled 0 Palette.empty ps) := by
  simp only [rd, runChunk, parseOldPaletteChunk, Spec.encOldPalette, UInt16.toNat_ofNat_of_lt' hlen,
    oldPackets_reads m scaled ps 0 Palette.empty hps (by omega)]

def TilesetPixelsOk (inflate : Inflate) (fmt : PixelFormat) (t : Spec.TilesetSpec) (pad : Bytes) :
    Prop :=
  fmt.bpp * (t.count.toNat * t.th.toNat * t.tw.toNat) < usizeLimit ∧
  inflate (t.z ++ pad) = .ok t.pixels ∧
  t.pixels.length = fmt.bpp * (t.count.toNat * t.th.toNat * t.tw.toNat)

instance (inflate : Inflate) (fmt : PixelFormat) (t : Spec.TilesetSpec) (pad : Bytes) :
    Decidable (TilesetPixelsOk inflate fmt t pad) := by unfold TilesetPixelsOk; infer_instance

/-- **C01, round trip**: tileset chunk: external link iff flag bit 0, tile pixels iff bit 1,
    "empty tile is 0" is bit 2.  `htw`, `hth`: the decoder refuses a tile width or height 0. -/
theorem tileset_roundtrip (t : Spec.TilesetSpec)
    (pad : Bytes) (hres : t.reserved.length = 14) (hlen : t.name.length < 65536)
    (hutf : validUtf8 t.name = true) (htw : t.tw.toNat ≠ 0) (hth : t.th.toNat ≠ 0)
    (hpix : t.flags.toNat / 2 % 2 = 1 → TilesetPixelsOk inflate fmt t pad) :
    runChunk (parseTilesetChunk inflate fmt) (Spec.encTileset t ++ pad) =
      .ok (Spec.tilesetOfSpec fmt t) := by
  -- everything in front of the pixels once; their side conditions hold under bit 1 only
  simp only [rd, runChunk, parseTilesetChunk, Spec.encTileset, Spec.tilesetOfSpec, hres, hlen, hutf,
    htw, hth, Bool.or_eq_true, or_self]
  by_cases h1 : t.flags.toNat / 2 % 2 = 1
  · obtain ⟨hn, hz, hpx⟩ := hpix h1
    have hn' : ¬ t.count.toNat * t.th.toNat * t.tw.toNat ≥ usizeLimit :=
      Nat.not_le.mpr (Nat.lt_of_le_of_lt (Nat.le_mul_of_pos_left _ (bpp_range fmt).1) hn)
    simp only [rd, h1, hn',
      RdS.bind_ok (pixelsFromCompressed_ok inflate fmt _ (t.z ++ pad) t.pixels hn hz hpx)]
  · simp only [rd, h1]

def chunkSize (c : Spec.ChunkSpec) : Nat := 6 + (Spec.encItem c.item).2.length + c.pad.length

theorem encChunk_eq (c : Spec.ChunkSpec) :
    Spec.encChunk c = u32le (UInt32.ofNat (chunkSize c)) ++ u16le (Spec.encItem c.item).1 ++
      (Spec.encItem c.item).2 ++ c.pad := rfl

theorem encChunk_length (c : Spec.ChunkSpec) : (Spec.encChunk c).length = chunkSize c := by
  simp only [encChunk_eq, chunkSize, List.length_append, u32le_length, u16le_length]

def itemType : Spec.Item → ChunkType
  | .layer _ => .layer
  | .cel _ => .cel
  | .tags _ _ => .tags
  | .slice _ => .slice
  | .palette _ _ _ _ => .palette
  | .oldPalette scaled _ => if scaled then .oldPalette11 else .oldPalette04
  | .userData _ _ _ => .userData
  | .extFiles _ _ => .externalFiles
  | .tileset _ => .tileset
  | .colorProfile _ _ _ _ => .colorProfile
  | .ignorable code _ =>
      if code.toNat = 0x2006 then .celExtra else if code.toNat = 0x2016 then .mask else .path

def ItemCodeOk : Spec.Item → Prop
  | .ignorable code _ => code.toNat = 0x2006 ∨ code.toNat = 0x2016 ∨ code.toNat = 0x2017
  | _ => True

theorem parseChunkType_item (it : Spec.Item) (h : ItemCodeOk it) :
    parseChunkType (Spec.encItem it).1 = .ok (itemType it) := by
  cases it with
  | oldPalette scaled ps => cases scaled <;> rfl
  | ignorable code payload =>
      rcases h with h | h | h
      · obtain rfl : code = 0x2006 := UInt16.toNat_inj.mp h
        rfl
      · obtain rfl : code = 0x2016 := UInt16.toNat_inj.mp h
        rfl
      · obtain rfl : code = 0x2017 := UInt16.toNat_inj.mp h
        rfl
  | _ => rfl

def chunkOf (c : Spec.ChunkSpec) : Chunk := ⟨itemType c.item, (Spec.encItem c.item).2 ++ c.pad⟩

/-- the size fits the chunk's `u32` size field, and `parseChunkType` knows the type code -/
def ChunkOk (c : Spec.ChunkSpec) : Prop := chunkSize c < 4294967296 ∧ ItemCodeOk c.item

/-- **C01, round trip**: `Chunk::read` on an encoded chunk, for every byte budget `avail` that
    covers it (`havail`; `read` refuses a chunk larger than what is left of the frame, and one
    smaller than its own 6-byte header).  The prime marks no variant: there is no unprimed
    `readChunk_roundtrip`. -/
theorem readChunk_roundtrip' (c : Spec.ChunkSpec) (avail : Int) (r : Bytes) (h : ChunkOk c)
    (havail : (chunkSize c : Int) ≤ avail) :
    readChunk bytesSrc avail (Spec.encChunk c ++ r) =
      .ok ((chunkOf c, avail - (chunkSize c : Int)), r) := by
  have h6 : ¬ chunkSize c < 6 := by
    unfold chunkSize
    omega
  have hav : ¬ (chunkSize c : Int) > avail := by omega
  have hl : ((Spec.encItem c.item).2 ++ c.pad).length = chunkSize c - 6 := by
    rw [chunkSize, Nat.add_assoc, Nat.add_sub_cancel_left, List.length_append]
  rw [encChunk_eq]
  simp only [rd, readChunk, parseChunkType_item c.item h.2, UInt32.toNat_ofNat_of_lt' h.1, h6, hav]
  -- payload and padding are taken by one `readN`
  rw [← List.append_assoc, readN_bind _ _ _ _ hl]
  rfl

theorem encChunks_cons (c : Spec.ChunkSpec) (cs : List Spec.ChunkSpec) :
    Spec.encChunks (c :: cs) = Spec.encChunk c ++ Spec.encChunks cs := rfl

/-- **C01, round trip**: `Chunk::read_all` over encoded chunks, for every byte budget that covers
    them -/
theorem readChunks_roundtrip (cs : List Spec.ChunkSpec) :
    ∀ (avail : Int) (r : Bytes), (∀ c ∈ cs, ChunkOk c) →
      ((Spec.encChunks cs).length : Int) ≤ avail →
      readChunks bytesSrc cs.length avail (Spec.encChunks cs ++ r) = .ok (cs.map chunkOf, r) := by
  induction cs with
  | nil => intro avail r _ _; rfl
  | cons c t ih =>
      intro avail r h hav
      rw [List.forall_mem_cons] at h
      rw [encChunks_cons, List.length_append, encChunk_length] at hav
      have hc := readChunk_roundtrip' c avail (Spec.encChunks t ++ r) h.1 (by omega)
      have ht := ih (avail - (chunkSize c : Int)) r h.2 (by omega)
      rw [encChunks_cons, List.append_assoc, List.length_cons, readChunks, RdS.bind_ok hc]
      exact RdS.bind_ok ht

def frameOldField (f : Spec.FrameSpec) : UInt16 :=
  if f.oldCountOnly || f.chunks.length == 0 then UInt16.ofNat f.chunks.length else f.oldField

/-- 0 in the new (u32) count field means "use the old field" -/
def frameNewField (f : Spec.FrameSpec) : UInt32 :=
  if f.oldCountOnly then 0 else UInt32.ofNat f.chunks.length

def frameBytes (f : Spec.FrameSpec) : Nat := 16 + (Spec.encChunks f.chunks).length + f.slack.toNat

theorem readFrameHeader_roundtrip (f : Spec.FrameSpec) (r : Bytes) :
    readFrameHeader bytesSrc (Spec.encFrame f ++ r) =
      .ok (⟨UInt32.ofNat (frameBytes f), frameOldField f, f.duration, frameNewField f⟩,
           Spec.encChunks f.chunks ++ r) := by
  -- the encoder writes `if c then u16le a else u16le b`; the fields have the `if` inside
  simp only [rd, readFrameHeader, Spec.encFrame, frameOldField, frameNewField, frameBytes,
    ← apply_ite u16le, ← apply_ite u32le, UInt16.reduceToNat, bne_self_eq_false,
    Bool.false_eq_true]

/-- both chunk-count conventions give the number of chunks -/
theorem frame_numChunks (f : Spec.FrameSpec)
    (hold : f.oldCountOnly = true → f.chunks.length < 65536)
    (hnew : f.oldCountOnly = false → f.chunks.length < 4294967296) :
    (FrameHeader.mk (UInt32.ofNat (frameBytes f)) (frameOldField f) f.duration
      (frameNewField f)).numChunks = f.chunks.length := by
  cases ho : f.oldCountOnly with
  | true =>
      simp only [FrameHeader.numChunks, frameNewField, ho, if_true, UInt32.toNat_zero, BEq.rfl,
        frameOldField, Bool.true_or, UInt16.toNat_ofNat_of_lt' (hold ho)]
  | false =>
      by_cases h0 : f.chunks.length = 0
      · simp only [FrameHeader.numChunks, frameNewField, ho, Bool.false_eq_true, if_false, h0,
          UInt32.reduceOfNat, UInt32.toNat_zero, BEq.rfl, if_true, frameOldField, Bool.or_true,
          UInt16.reduceOfNat, UInt16.toNat_zero]
      · simp only [FrameHeader.numChunks, frameNewField, ho, Bool.false_eq_true, if_false,
          UInt32.toNat_ofNat_of_lt' (hnew ho), beq_iff_eq, h0]

/-- **C01, round trip**: frame header followed by `read_all`: the chunks of an encoded frame come
    back in order.  (`parseFrame_enc`, `C01Frames.lean`, takes the same three steps itself:
    `parseFrame` sets the frame's duration between header and chunks.) -/
theorem frame_roundtrip (f : Spec.FrameSpec) (r : Bytes)
    (hold : f.oldCountOnly = true → f.chunks.length < 65536)
    (hnew : f.oldCountOnly = false → f.chunks.length < 4294967296)
    (hbytes : frameBytes f < 4294967296) (hcs : ∀ c ∈ f.chunks, ChunkOk c) :
    (readFrameHeader bytesSrc >>= fun h =>
        readChunks bytesSrc h.numChunks ((h.numBytes.toNat : Int) - 16)) (Spec.encFrame f ++ r)
      = .ok (f.chunks.map chunkOf, r) := by
  rw [RdS.bind_ok (readFrameHeader_roundtrip f r)]
  simp only [frame_numChunks f hold hnew, UInt32.toNat_ofNat_of_lt' hbytes]
  apply readChunks_roundtrip f.chunks _ r hcs
  unfold frameBytes
  omega

/-- **C01, round trip**: the eight fields `readHeader` keeps come back as stored, the frame count
    `n` as the `u16` that carries it; file size, flags, grid and the other fields are read and
    dropped -/
theorem readHeader_roundtrip (h : Spec.HeaderSpec) (n : Nat) (r : Bytes)
    (hres : h.reserved.length = 84) :
    readHeader bytesSrc (Spec.encHeader h n ++ r) =
      .ok (⟨UInt16.ofNat n, h.width, h.height, h.depth, h.speed, h.tci, h.pixelW, h.pixelH⟩, r) := by
  -- `unfold`, since generating the equation lemma `Spec.encHeader.eq_1` (for `simp`, `rw`) times out
  unfold Spec.encHeader
  simp only [rd, readHeader, hres, UInt16.reduceToNat, bne_self_eq_false, Bool.false_eq_true]

/-- all flag bits, tilemap type, last blend mode, a name with a two-byte UTF-8 sequence, padding -/
example : runChunk parseLayerChunk
    (Spec.encLayer ⟨0xFFFF, 2, 0xFFFF, 7, 9, 18, 255, 1, 2, [104, 0xC3, 0xA9], 0xFFFFFFFF⟩ ++ [1, 2, 3])
    = .ok { flags := 127, name := [104, 0xC3, 0xA9], blendMode := 18, opacity := 255,
            layerType := .tilemap 0xFFFFFFFF, childLevel := 0xFFFF, userData := none } :=
  layer_roundtrip _ _ (by decide) (by decide) (by decide) (by decide)

/-- signed extremes of the cel position, empty trailing bytes -/
example (inflate : Inflate) (fmt : PixelFormat) :
    runChunk (parseCelChunk inflate fmt)
      (Spec.encCel ⟨0xFFFF, Int16.minValue, Int16.maxValue, 0, [1, 2, 3, 4, 5, 6, 7], .linked 0xFFFF⟩ ++ [])
    = .ok { data := ⟨0xFFFF, Int16.minValue, Int16.maxValue, 0⟩, content := .linked 0xFFFF,
            userData := none } :=
  cel_linked_roundtrip inflate fmt _ _ _ rfl rfl

/-- a raw RGBA cel of two pixels at a negative x, one byte of padding -/
example (inflate : Inflate) :
    runChunk (parseCelChunk inflate .rgba)
      (Spec.encCel ⟨0, -1, 1, 128, [0, 0, 0, 0, 0, 0, 0], .image 2 1 [1, 2, 3, 4, 5, 6, 7, 8] none⟩ ++ [9])
    = .ok { data := ⟨0, -1, 1, 128⟩,
            content := .raw 2 1 (.rgba #[⟨1, 2, 3, 4⟩, ⟨5, 6, 7, 8⟩]), userData := none } :=
  cel_raw_roundtrip inflate .rgba _ 2 1 [1, 2, 3, 4, 5, 6, 7, 8] [9] rfl rfl rfl

/-- a slice key with the signed extremes, both optional parts present -/
example : parseSliceKey 3
    (Spec.encSliceKey 3 (0xFFFFFFFF, Int32.minValue, Int32.maxValue, 0, 0xFFFFFFFF,
      ⟨Int32.minValue, -1, 0, 1⟩, (Int32.maxValue, Int32.minValue)) ++ [])
    = .ok ({ fromFrame := 0xFFFFFFFF, ox := Int32.minValue, oy := Int32.maxValue, w := 0,
             h := 0xFFFFFFFF, slice9 := some ⟨Int32.minValue, -1, 0, 1⟩,
             pivot := some (Int32.maxValue, Int32.minValue) }, []) :=
  sliceKey_reads 3 _ []

end Ase.Proofs.C01
