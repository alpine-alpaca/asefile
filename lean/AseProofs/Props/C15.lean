import AseProofs.Lemmas.ValidParse
/-
  C15  Documented-unsupported features are refused, not silently ignored.
  One refusal lemma per feature (at the decoder that meets the feature) and the lifting lemma:
  the chunks of a frame are processed successfully only if each of them is.  The step from a
  frame's `processChunks` to `parseFile` (`parseFile_eq_ok`, `parseFrames_succ_eq_ok`,
  `parseFrame_eq_ok`) is not stated here; only the pixel-ratio and colour-depth refusals are at file level.
-/
namespace Ase.Proofs.C15
open Ase Ase.Proofs.C05

/-- **C15**, pixel aspect ratio: accepted iff a component is 0 or both are 1 (so 2:2 is refused) -/
theorem pixelRatio_rule (pw ph : UInt8) :
    pixelRatioOk pw ph = true ↔ (pw.toNat = 0 ∨ ph.toNat = 0 ∨ (pw.toNat = 1 ∧ ph.toNat = 1)) := by
  simp only [pixelRatioOk, Bool.not_eq_true', Bool.and_eq_false_iff, bne_eq_false_iff_eq,
    Bool.not_eq_false', Bool.and_eq_true, beq_iff_eq]
  rw [or_assoc]

/-- **C15**, pixel aspect ratio: a file whose header declares a ratio the rule does not accept is
    refused -/
theorem pixelRatio_refused {σ} (S : Src σ) (inflate : Inflate) (m : Profile) (s s' : σ) (h : Header)
    (hh : readHeader S s = .ok (h, s')) (hbad : pixelRatioOk h.pixelW h.pixelH = false) :
    parseFile S inflate m s = .err .unsupported := by
  simp [parseFile, RdS.bind_run, hh, hbad]

/-- **C15**, colour depth: other than 8 / 16 / 32 is refused by `parsePixelFormat` -/
theorem colorDepth_refused (d : UInt16) (tci : UInt8)
    (hd : d.toNat ≠ 8 ∧ d.toNat ≠ 16 ∧ d.toNat ≠ 32) : parsePixelFormat d tci = .err .invalid := by
  unfold parsePixelFormat
  split
  · rename_i h; exact absurd h hd.1
  · rename_i h; exact absurd h hd.2.1
  · rename_i h; exact absurd h hd.2.2
  · rfl

/-- **C15**, colour depth: a file whose header declares a depth other than 8 / 16 / 32 is refused -/
theorem colorDepth_refused_file {σ} (S : Src σ) (inflate : Inflate) (m : Profile) (s s' : σ)
    (h : Header) (hh : readHeader S s = .ok (h, s')) (hok : pixelRatioOk h.pixelW h.pixelH = true)
    (hd : h.colorDepth.toNat ≠ 8 ∧ h.colorDepth.toNat ≠ 16 ∧ h.colorDepth.toNat ≠ 32) :
    parseFile S inflate m s = .err .invalid := by
  simp [parseFile, RdS.bind_run, hh, hok, colorDepth_refused _ _ hd]

/-- **C15**, chunk type: only the fourteen known codes are accepted -/
theorem chunkType_known (code : UInt16) (ty : ChunkType) (h : parseChunkType code = .ok ty) :
    code.toNat ∈ [0x0004, 0x0011, 0x2004, 0x2005, 0x2006, 0x2007, 0x2008, 0x2016, 0x2017, 0x2018,
                  0x2019, 0x2020, 0x2022, 0x2023] := by
  unfold parseChunkType at h
  split at h
  -- fourteen arms accept one code each; the fifteenth is the refusal
  case h_15 => cases h
  all_goals (rename_i hc; rw [hc]; decide)

/-- **C15**, layer type: values above 2 are refused -/
theorem layerType_refused (id : UInt16) (h : 2 < id.toNat) (bs : Bytes) :
    parseLayerType id bs = .err .invalid := by
  unfold parseLayerType
  generalize id.toNat = n at h
  match n, h with
  | n + 3, _ => rfl

/-- **C15**, blend mode: values above 18 are refused -/
theorem blendMode_refused (id : UInt16) (h : 18 < id.toNat) (bs : Bytes) :
    parseBlendMode id bs = .err .invalid := by
  have : ¬ id.toNat ≤ 18 := by omega
  simp [parseBlendMode, this]

/-- **C15**, cel type: values above 3 are refused -/
theorem celType_refused (inflate : Inflate) (fmt : PixelFormat) (t : UInt16) (h : 3 < t.toNat)
    (bs : Bytes) :
    parseCelContent inflate fmt t bs = .err .invalid := by
  unfold parseCelContent
  generalize t.toNat = n at h
  match n, h with
  | n + 4, _ => rfl

/-- **C15**, animation direction: `parseTag` succeeds only with a direction ≤ 2 -/
theorem tagDirection_supported (bs : Bytes) (t : Tag) (r : Bytes) (h : parseTag bs = .ok (t, r)) :
    t.direction ≤ 2 :=
  (C12.satC_parseTag (A := True)).post (fun _ _ h => h.1.1) bs t r h

/-- **C15**, tilemap: `parseTilemap` succeeds only with 32 bits per tile -/
theorem tilemapBits_supported (inflate : Inflate) (bs : Bytes) (t : TilemapData) (r : Bytes)
    (h : parseTilemap inflate bs = .ok (t, r)) :
    ∃ w hh bits b1 b2 b3, readU16 bytesSrc bs = .ok (w, b1) ∧ readU16 bytesSrc b1 = .ok (hh, b2) ∧
      readU16 bytesSrc b2 = .ok (bits, b3) ∧ bits.toNat = 32 := by
  unfold parseTilemap at h
  obtain ⟨w, b1, h1, h⟩ := RdS.bind_eq_ok h
  obtain ⟨hh, b2, h2, h⟩ := RdS.bind_eq_ok h
  obtain ⟨bits, b3, h3, h⟩ := RdS.bind_eq_ok h
  split at h
  · cases h
  · rename_i hb
    refine ⟨w, hh, bits, b1, b2, b3, h1, h2, h3, ?_⟩
    simpa only [bne_iff_ne, ne_eq, Decidable.not_not] using hb

/-- **C15**, external tilesets: a tileset whose pixels are not embedded is refused by validation -/
theorem external_tileset_refused (pal : Option Palette) (fmt : PixelFormat) :
    ∀ (l : List (Nat × Tileset RawPixels)), (∃ kt ∈ l, kt.2.pixels = none) →
      ∃ e, validateTilesets pal fmt l = .err e := by
  intro l ⟨kt, hmem, hnone⟩
  have hs := rsat_validateTilesets pal fmt l
  cases hv : validateTilesets pal fmt l with
  | err e => exact ⟨e, rfl⟩
  | panic s => exact absurd hv (hs.noPanic s)
  | ok l' =>
      -- on success every tileset had pixels
      obtain ⟨i, hi⟩ := List.getElem?_of_mem hmem
      rcases (hs.of_ok hv).getElem?_rel i with
        ⟨h0, _⟩ | ⟨_, _, ha, _, _, raw, _, hraw, _⟩
      · cases hi.symm.trans h0
      · cases Option.some.inj (hi.symm.trans ha)
        cases hnone.symm.trans hraw

/-- **C15**, colour profiles: success implies type 0/1 without the fixed-gamma flag, i.e. an
    embedded ICC profile, an unknown profile type and the fixed-gamma flag are all refused -/
theorem colorProfile_supported (bs r : Bytes) (h : parseColorProfileChunk bs = .ok ((), r)) :
    ∃ pt fl b1 b2, readU16 bytesSrc bs = .ok (pt, b1) ∧ readU16 bytesSrc b1 = .ok (fl, b2) ∧
      pt.toNat ≤ 1 ∧ fl.toNat % 2 = 0 := by
  unfold parseColorProfileChunk at h
  obtain ⟨pt, b1, h1, h⟩ := RdS.bind_eq_ok h
  obtain ⟨fl, b2, h2, h⟩ := RdS.bind_eq_ok h
  iterate 2 obtain ⟨_, _, _, h⟩ := RdS.bind_eq_ok h
  split at h
  · cases h
  · split at h
    · cases h
    · split at h
      · cases h
      · rename_i hpt hfl hicc
        refine ⟨pt, fl, b1, b2, h1, h2, ?_, ?_⟩
        · simp only [gt_iff_lt, Nat.not_lt, beq_iff_eq] at hpt hicc
          omega
        · simp only [beq_iff_eq, Nat.mod_two_not_eq_one] at hfl
          omega

/-- **C15**, lifting: if the chunks of one frame were processed successfully, each of them was
    processed successfully from some state -/
theorem processChunks_ok_all (inflate : Inflate) (m : Profile) (fmt : PixelFormat) (frame : Nat) :
    ∀ (cs : List Chunk) (pi pi' : ParseInfo),
      processChunks inflate m fmt frame pi cs = .ok pi' →
      ∀ c ∈ cs, ∃ a b, processChunk inflate m fmt frame a c = .ok b := by
  intro cs
  induction cs with
  | nil => intro _ _ _ c hc; cases hc
  | cons hd tl ih =>
      intro pi pi' h c hc
      obtain ⟨pi1, h1, h⟩ := processChunks_cons_eq_ok h
      rcases List.mem_cons.mp hc with rfl | hmem
      · exact ⟨pi, pi1, h1⟩
      · exact ih pi1 pi' h c hmem

/-- **C15**, lifting, refusal form: a chunk that is refused from every state makes the
    `processChunks` of its frame fail -/
theorem processChunks_err_of_chunk_err (inflate : Inflate) (m : Profile) (fmt : PixelFormat)
    (frame : Nat) (cs : List Chunk) (pi : ParseInfo) (c : Chunk) (hc : c ∈ cs)
    (hrefuse : ∀ a, ∃ e, processChunk inflate m fmt frame a c = .err e) :
    ∀ pi', processChunks inflate m fmt frame pi cs ≠ .ok pi' := by
  intro pi' h
  obtain ⟨a, b, hab⟩ := processChunks_ok_all inflate m fmt frame cs pi pi' h c hc
  obtain ⟨e, he⟩ := hrefuse a
  rw [he] at hab
  cases hab

end Ase.Proofs.C15
