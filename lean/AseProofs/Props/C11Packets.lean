import AseProofs.Props.C01Raw
/-
  C11, legacy palette chunks with SEVERAL packets: the palette a legacy chunk builds, colour
  index by colour index.  The skip bytes accumulate (a packet's colour count does not advance
  the position), so packets may overlap; where they do, the later packet wins.
-/
namespace Ase.Proofs.C11
open Ase Ase.Proofs Ase.Proofs.C01

abbrev Triple := UInt8 × UInt8 × UInt8
abbrev Packet := UInt8 × List Triple

/-- each packet's colour list paired with its absolute start id: the running sum of the skip
    bytes, starting from `skip` -/
def packetStarts : Nat → List Packet → List (Nat × List Triple)
  | _, [] => []
  | skip, (sk, cs) :: ps => (skip + sk.toNat, cs) :: packetStarts (skip + sk.toNat) ps

def Covers (i : Nat) (sc : Nat × List Triple) : Prop := sc.1 ≤ i ∧ i < sc.1 + sc.2.length

instance (i : Nat) (sc : Nat × List Triple) : Decidable (Covers i sc) := by
  unfold Covers; infer_instance

def entryOf (scaled : Bool) (i : Nat) (c : Triple) : PalEntry :=
  { id := i, rgba := ⟨Spec.oldColor scaled c.1, Spec.oldColor scaled c.2.1,
                      Spec.oldColor scaled c.2.2, 255⟩, name := none }

def packetColor (scaled : Bool) (i : Nat) (sc : Nat × List Triple) : Option PalEntry :=
  if Covers i sc then (sc.2[i - sc.1]?).map (entryOf scaled i) else none

theorem Covers.index_lt {i : Nat} {sc : Nat × List Triple} (h : Covers i sc) :
    i - sc.1 < sc.2.length := by
  unfold Covers at h
  omega

theorem packetColor_isSome (scaled : Bool) (i : Nat) (sc : Nat × List Triple) :
    (packetColor scaled i sc).isSome ↔ Covers i sc := by
  unfold packetColor
  by_cases h : Covers i sc
  · simp only [h, if_true, h.index_lt, getElem?_pos, Option.map_some, Option.isSome_some]
  · simp only [h, if_false, Option.isSome_none, Bool.false_eq_true]

theorem packetColor_covered (scaled : Bool) (i : Nat) (sc : Nat × List Triple)
    (h : Covers i sc) :
    packetColor scaled i sc =
      some (entryOf scaled i (sc.2[i - sc.1]'h.index_lt)) := by
  simp only [packetColor, h, if_true, h.index_lt, getElem?_pos, Option.map_some]

theorem oldEntries_color' (scaled : Bool) (first : Nat) (cs : List Triple) (q : Palette)
    (i : Nat) :
    (Spec.oldEntries scaled first q cs).color i =
      (packetColor scaled i (first, cs)).or (q.color i) := by
  rw [oldEntries_color]
  unfold packetColor Covers
  by_cases h : first ≤ i ∧ i < first + cs.length
  · have h' : i - first < cs.length := by omega
    simp only [h, and_self, if_true, h', getElem?_pos, Option.map_some, entryOf, Option.some_or]
  · simp only [h, if_false, Option.none_or]

/-- **C11** the legacy palette, colour index by colour index: colour `i` is the one written by the
    LAST packet (in chunk order) that covers `i`, and what was there before if none does -/
theorem oldPackets_color (scaled : Bool) (ps : List Packet) : ∀ (skip : Nat) (p : Palette)
    (i : Nat),
    (Spec.oldPackets scaled skip p ps).color i =
      (((packetStarts skip ps).reverse).findSome? (packetColor scaled i)).or (p.color i) := by
  induction ps with
  | nil =>
      intro skip p i
      simp only [Spec.oldPackets, packetStarts, List.reverse_nil, List.findSome?_nil,
        Option.none_or]
  | cons pk t ih =>
      intro skip p i
      obtain ⟨sk, cs⟩ := pk
      rw [Spec.oldPackets, ih, oldEntries_color', packetStarts, List.reverse_cons,
        List.findSome?_append]
      -- the head packet is looked at last
      simp only [List.findSome?_singleton, Option.or_assoc]

/-- no packet covers `i`: the colour is unchanged -/
theorem oldPackets_color_uncovered (scaled : Bool) (ps : List Packet) (skip : Nat) (p : Palette)
    (i : Nat) (h : ∀ sc ∈ packetStarts skip ps, ¬ Covers i sc) :
    (Spec.oldPackets scaled skip p ps).color i = p.color i := by
  rw [oldPackets_color, List.findSome?_eq_none_iff.mpr]
  · rfl
  · intro sc hsc
    exact if_neg (h sc (List.mem_reverse.mp hsc))

/-- the last packet covers `i`: the colour is that packet's triple `i - start` -/
theorem oldPackets_color_last (scaled : Bool) (ps : List Packet) (skip : Nat) (p : Palette)
    (i : Nat) (st : Nat) (cs : List Triple)
    (hl : (packetStarts skip ps).getLast? = some (st, cs)) (h : st ≤ i ∧ i < st + cs.length) :
    (Spec.oldPackets scaled skip p ps).color i =
      some (entryOf scaled i (cs[i - st]'(by omega))) := by
  rw [oldPackets_color]
  obtain ⟨l, hl'⟩ := List.getLast?_eq_some_iff.mp hl
  rw [hl', List.reverse_append, List.reverse_singleton, List.singleton_append,
    List.findSome?_cons, packetColor_covered scaled i (st, cs) h]
  rfl

/-- **C11** the defined ids: those defined before and those covered by some packet -/
theorem oldPackets_ids (scaled : Bool) (ps : List Packet) (skip : Nat) (p : Palette) (i : Nat) :
    ((Spec.oldPackets scaled skip p ps).color i).isSome ↔
      (p.color i).isSome ∨ ∃ sc ∈ packetStarts skip ps, Covers i sc := by
  rw [oldPackets_color, Option.isSome_or, Bool.or_eq_true, List.isSome_findSome?]
  simp only [List.any_eq_true, List.mem_reverse, packetColor_isSome]
  exact Or.comm

/-- **C11** the loaded palette, legacy case, over raw chunk fields: when the file has no new-format
    palette chunk, the sprite has a palette iff it has a legacy palette chunk, and colour `i` is
    the one written by the last packet of the FIRST legacy chunk that covers `i` (start ids =
    running sums of the skip bytes from 0); ids covered by no packet are undefined -/
theorem loaded_palette_legacy_raw (inflate : Inflate) (m : Profile) (p : Spec.Program)
    (hwf : ProgramWF inflate p) (s : Sprite) (hs : parse inflate m (Spec.encode p) = .ok s)
    (hnew : (programItems p).filterMap newPalRaw? = []) :
    match ((programItems p).filterMap oldPalRaw?).head? with
    | none => s.palette = none
    | some (scaled, ps) => ∃ pal, s.palette = some pal ∧ ∀ i,
        pal.color i = ((packetStarts 0 ps).reverse).findSome? (packetColor scaled i) := by
  have h := loaded_palette_raw inflate m p hwf s hs
  rw [hnew] at h
  simp only [List.getLast?_nil] at h
  generalize ((programItems p).filterMap oldPalRaw?).head? = o at h ⊢
  cases o with
  | none => exact h
  | some r => exact ⟨_, h, fun i => (oldPackets_color ..).trans Option.or_none⟩

def c0 : Triple := (10, 11, 12)
def c1 : Triple := (20, 21, 22)
def c2 : Triple := (30, 31, 32)
def c3 : Triple := (40, 41, 42)
def c4 : Triple := (50, 51, 52)

/-- packets at ids 0 (two colours), 0+1 = 1 (two colours), 1+2 = 3 (one colour) -/
def exPackets : List Packet := [(0, [c0, c1]), (1, [c2, c3]), (2, [c4])]

example : packetStarts 0 exPackets = [(0, [c0, c1]), (1, [c2, c3]), (3, [c4])] := by decide

/-- the model itself: ids 0..3 = c0, c2, c3, c4 (c1 is overwritten), id 4 undefined -/
example : (List.range 5).map (Spec.oldPackets false 0 Palette.empty exPackets).color =
    [some (entryOf false 0 c0), some (entryOf false 1 c2), some (entryOf false 2 c3),
     some (entryOf false 3 c4), none] := by decide

/-- … and the characterisation gives the same -/
example : (List.range 5).map
      (fun i => ((packetStarts 0 exPackets).reverse).findSome? (packetColor false i)) =
    [some (entryOf false 0 c0), some (entryOf false 1 c2), some (entryOf false 2 c3),
     some (entryOf false 3 c4), none] := by decide

example : entryOf false 1 c2 = ⟨1, ⟨30, 31, 32, 255⟩, none⟩ := by decide
/-- 6-bit components are scaled: 63 ↦ 255 -/
example : entryOf true 7 (63, 0, 32) = ⟨7, ⟨255, 0, 130, 255⟩, none⟩ := by decide

example (q : Palette) : (Spec.oldPackets false 0 q exPackets).color 9 = q.color 9 :=
  oldPackets_color_uncovered false exPackets 0 q 9 (by decide)

example (q : Palette) :
    (Spec.oldPackets false 0 q exPackets).color 3 = some (entryOf false 3 c4) :=
  oldPackets_color_last false exPackets 0 q 3 3 [c4] (by decide) (by decide)

example : ((Spec.oldPackets false 0 Palette.empty exPackets).color 2).isSome := by
  rw [oldPackets_ids]; exact Or.inr ⟨(1, [c2, c3]), by decide, by decide⟩

/-! ### non-vacuity at file level: a program whose only palette chunk is that legacy chunk -/

def legacyProgram : Spec.Program :=
  { tinyProgram with
    frames := [{ duration := 100, oldCountOnly := false, oldField := 0, ph := 0, slack := 0,
                 chunks := [
                   ⟨.layer ⟨3, 0, 0, 0, 0, 0, 255, 0, 0, [76, 49], 0⟩, []⟩,
                   ⟨.oldPalette false exPackets, []⟩,
                   ⟨.oldPalette false [(0, [(9, 9, 9)])], []⟩,
                   ⟨.cel ⟨0, 0, 0, 255, zeros 7, .image 1 1 [10, 20, 30, 255] none⟩, [7]⟩] }] }

theorem legacyProgram_wf (inflate : Inflate) : ProgramWF inflate legacyProgram :=
  ProgramWF.mono (inflate₀ := fun _ => .err .invalid) (fun _ _ h => nomatch h) (by decide +kernel)

/-- `legacyProgram` loads, so the example below is not about an impossible hypothesis -/
theorem legacyProgram_loads (inflate : Inflate) (m : Profile) :
    (parse inflate m (Spec.encode legacyProgram)).isOk = true :=
  loads_of_sem (legacyProgram_wf inflate) (by decide +kernel)

/-- the FIRST legacy chunk decides; ids 0..3 = c0, c2, c3, c4, id 4 undefined -/
example (inflate : Inflate) (m : Profile) (s : Sprite)
    (hs : parse inflate m (Spec.encode legacyProgram) = .ok s) :
    ∃ pal, s.palette = some pal ∧ pal.color 0 = some (entryOf false 0 c0) ∧
      pal.color 1 = some (entryOf false 1 c2) ∧ pal.color 2 = some (entryOf false 2 c3) ∧
      pal.color 3 = some (entryOf false 3 c4) ∧ pal.color 4 = none := by
  obtain ⟨pal, h1, h2⟩ :=
    loaded_palette_legacy_raw inflate m legacyProgram (legacyProgram_wf inflate) s hs rfl
  refine ⟨pal, h1, ?_, ?_, ?_, ?_, ?_⟩ <;> rw [h2] <;> decide

end Ase.Proofs.C11
