import AseProofs.Props.C12Inflate
import AseProofs.Props.C12Footprint
/-
  C12 at the inflater the driver (and hence the correspondence check) runs: for
  `Ase.ZlibT.inflate` the expansion hypothesis is a theorem.
-/
namespace Ase.Proofs.C12
open Ase Ase.Footprint

/-- **C12** with no hypothesis left: the heap footprint of every sprite loaded with the model's
    own inflater is within the allocation account and within 64 MiB + 8192 bytes per input byte -/
theorem parse_footprint_bound_inflateT (m : Profile) (bs : Bytes) (s : Sprite)
    (h : parse ZlibT.inflate m bs = .ok s) :
    footprintSprite s ≤ Alloc.reserved bs ∧ footprintSprite s ≤ Alloc.bound bs.length :=
  parse_footprint_bound ZlibT.inflate inflateT_expansionBounded m bs s h

end Ase.Proofs.C12
