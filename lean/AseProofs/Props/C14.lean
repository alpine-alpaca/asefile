import Ase.Stream
import AseProofs.Props.C13
/-
  C14  The result of loading does not depend on how the reader delivers the bytes
       (short reads, `Interrupted`); an I/O error of the reader is returned as such.
-/
namespace Ase.Proofs.C14
open Ase Ase.Proofs.SrcSim

def NoFail (sched : List Ev) : Prop := ∀ k, Ev.fail k ∉ sched

def firstFail : List Ev → Option IoKind
  | [] => none
  | .fail k :: _ => some k
  | .deliver _ :: rest => firstFail rest
  | .interrupted :: rest => firstFail rest

/-- the largest number of bytes the events before the first `fail` can deliver -/
def capacity : List Ev → Nat
  | [] => 0
  | .fail _ :: _ => 0
  | .deliver n :: rest => max n 1 + capacity rest
  | .interrupted :: rest => capacity rest

/-- the `deliver` events before the first `fail`; while data is left each of them hands over at
    least one byte, so this many bytes are consumed before the `fail` can be reached -/
def deliveries : List Ev → Nat
  | [] => 0
  | .fail _ :: _ => 0
  | .deliver _ :: rest => 1 + deliveries rest
  | .interrupted :: rest => deliveries rest

theorem NoFail.nil : NoFail [] := fun _ h => nomatch h

theorem NoFail.of_cons {e : Ev} {l : List Ev} (h : NoFail (e :: l)) : NoFail l :=
  fun k hk => h k (List.mem_cons_of_mem _ hk)

theorem NoFail.cons {e : Ev} {l : List Ev} (he : ∀ k, e ≠ .fail k) (h : NoFail l) :
    NoFail (e :: l) := by
  intro k hk
  rcases List.mem_cons.mp hk with hk | hk
  · exact he k hk.symm
  · exact h k hk

theorem noFail_iff (sched : List Ev) : NoFail sched ↔ firstFail sched = none := by
  induction sched with
  | nil => exact ⟨fun _ => rfl, fun _ => .nil⟩
  | cons e l ih =>
      cases e with
      | fail k => exact ⟨fun h => absurd (List.mem_cons_self ..) (h k), nofun⟩
      | _ => exact ⟨fun h => ih.1 h.of_cons, fun h => (ih.2 h).cons nofun⟩

theorem firstFail_append (pre post : List Ev) (h : NoFail pre) :
    firstFail (pre ++ post) = firstFail post := by
  induction pre with
  | nil => rfl
  | cons e l ih =>
      cases e with
      | fail k' => exact absurd (List.mem_cons_self ..) (h k')
      | _ => exact ih h.of_cons

theorem capacity_append (pre post : List Ev) (h : NoFail pre) :
    capacity (pre ++ post) = capacity pre + capacity post := by
  induction pre with
  | nil => exact (Nat.zero_add _).symm
  | cons e l ih =>
      cases e with
      | deliver n => simp only [List.cons_append, capacity, ih h.of_cons, Nat.add_assoc]
      | interrupted => exact ih h.of_cons
      | fail k' => exact absurd (List.mem_cons_self ..) (h k')

theorem deliveries_append (pre post : List Ev) (h : NoFail pre) :
    deliveries (pre ++ post) = deliveries pre + deliveries post := by
  induction pre with
  | nil => exact (Nat.zero_add _).symm
  | cons e l ih =>
      cases e with
      | deliver n => simp only [List.cons_append, deliveries, ih h.of_cons, Nat.add_assoc]
      | interrupted => exact ih h.of_cons
      | fail k' => exact absurd (List.mem_cons_self ..) (h k')

/-- the three outcomes of the `read_exact` loop, in terms of what `firstFail`, `deliveries` and
    `capacity` say of the schedule before and after: the next `need` bytes are delivered; the
    data is too short; the first `fail` is reached.  The cases are those of `readExactGo`. -/
theorem readExactGo_spec : ∀ (sched : List Ev) (need : Nat) (acc data : Bytes),
    (∃ sched', readExactGo sched need acc data =
          .ok (acc ++ data.take need, ⟨data.drop need, sched'⟩) ∧
        need ≤ data.length ∧ firstFail sched' = firstFail sched ∧
        deliveries sched ≤ deliveries sched' + need ∧
        (firstFail sched ≠ none → capacity sched' + need ≤ capacity sched)) ∨
    (readExactGo sched need acc data = .err (.io .unexpectedEof) ∧ data.length < need) ∨
    (∃ k, firstFail sched = some k ∧ readExactGo sched need acc data = .err (.io k) ∧
        deliveries sched ≤ data.length ∧ deliveries sched < need)
  | sched, 0, acc, data =>
      .inl ⟨sched, by rw [readExactGo, List.take_zero, List.append_nil, List.drop_zero],
        Nat.zero_le _, rfl, Nat.le_refl _, fun _ => Nat.le_refl _⟩
  | [], need + 1, acc, data => by
      by_cases hn : need + 1 ≤ data.length
      · exact .inl ⟨[], by rw [readExactGo, if_pos hn], hn, rfl, Nat.zero_le _,
          fun h => absurd rfl h⟩
      · exact .inr (.inl ⟨by rw [readExactGo, if_neg hn], Nat.lt_of_not_le hn⟩)
  | .interrupted :: rest, need + 1, acc, data => by
      -- the event is skipped by the loop and by the three schedule functions
      rcases readExactGo_spec rest (need + 1) acc data with
        ⟨s', h1, h⟩ | ⟨h1, h2⟩ | ⟨k, hk, h1, h⟩
      · exact .inl ⟨s', by rw [readExactGo, h1], h⟩
      · exact .inr (.inl ⟨by rw [readExactGo, h1], h2⟩)
      · exact .inr (.inr ⟨k, hk, by rw [readExactGo, h1], h⟩)
  | .fail k :: _, _ + 1, _, _ => .inr (.inr ⟨k, rfl, rfl, Nat.zero_le _, Nat.succ_pos _⟩)
  | .deliver n :: rest, need + 1, acc, data => by
      -- `need + 1 - d` is written `r` below, so that no subtraction is left
      generalize hdd : min (min (max n 1) (need + 1)) data.length = d
      have hstep : readExactGo (.deliver n :: rest) (need + 1) acc data =
          if d = 0 then .err (.io .unexpectedEof)
          else readExactGo rest (need + 1 - d) (acc ++ data.take d) (data.drop d) := by
        rw [readExactGo, hdd]
      by_cases hd : d = 0
      · exact .inr (.inl ⟨by rw [hstep, if_pos hd], by omega⟩)
      · have hd1 : d ≤ need + 1 :=
          hdd ▸ Nat.le_trans (Nat.min_le_left ..) (Nat.min_le_right ..)
        have hd2 : d ≤ data.length := hdd ▸ Nat.min_le_right ..
        have hd3 : d ≤ max n 1 :=
          hdd ▸ Nat.le_trans (Nat.min_le_left ..) (Nat.min_le_left ..)
        clear hdd
        rw [if_neg hd] at hstep
        obtain ⟨r, hr⟩ : ∃ r, need + 1 = d + r := ⟨need + 1 - d, by omega⟩
        rw [hr, Nat.add_sub_cancel_left] at hstep
        rw [hr, hstep]
        have hlen : (data.drop d).length + d = data.length := by
          rw [List.length_drop, Nat.sub_add_cancel hd2]
        rcases readExactGo_spec rest r (acc ++ data.take d) (data.drop d) with
          ⟨s', h1, h2, h3, h4, h5⟩ | ⟨h1, h2⟩ | ⟨k, hk, h1, h2, h3⟩
        · -- this event hands over `d` bytes, with `1 ≤ d` (`hd`) for the count of
          -- deliveries and `d ≤ max n 1` (`hd3`) for the capacity
          refine .inl ⟨s', ?run, ?len, h3, ?deliv, fun ho => ?cap⟩
          case run => rw [h1, List.append_assoc, ← List.take_add, List.drop_drop]
          case len => omega
          case deliv => rw [deliveries]; omega
          case cap => have := h5 ho; rw [capacity]; omega
        · exact .inr (.inl ⟨h1, by omega⟩)
        · exact .inr (.inr ⟨k, hk, h1, by rw [deliveries]; omega, by rw [deliveries]; omega⟩)

theorem readExact_zero (s : Stream) : readExact 0 s = .ok ([], s) := by
  rw [readExact, readExactGo]

/-- **C14 (one read)**: without `fail` events `read_exact` on the scheduled reader is
    `read_exact` on the plain bytes, whatever the schedule of short reads and interrupts is;
    the remaining schedule again has no `fail` event. -/
theorem readExact_sched (n : Nat) (bs : Bytes) (sched : List Ev) (h : NoFail sched) :
    (∃ e, readExact n ⟨bs, sched⟩ = .err e ∧ bytesRead n bs = .err e) ∨
    (∃ b rest sched', readExact n ⟨bs, sched⟩ = .ok (b, ⟨rest, sched'⟩) ∧
        bytesRead n bs = .ok (b, rest) ∧ NoFail sched') := by
  rcases readExactGo_spec sched n [] bs with ⟨s', h1, h2, h3, _⟩ | ⟨h1, h2⟩ | ⟨k, hk, _⟩
  · exact .inr ⟨bs.take n, bs.drop n, s', h1, if_pos h2,
      (noFail_iff _).2 (h3.trans ((noFail_iff _).1 h))⟩
  · exact .inl ⟨_, h1, if_neg (Nat.not_le_of_lt h2)⟩
  · exact nomatch ((noFail_iff _).1 h).symm.trans hk

/-- Invariant of a run that started with the bytes `bs` and the schedule `sched₀`: same remaining
    data and same first `fail` event; the bytes consumed so far, `bs.length - t.length`, are at
    least the `deliver` events used so far and (when there is a `fail` event) at most the
    capacity used so far. -/
def Rel (bs : Bytes) (sched₀ : List Ev) (s : Stream) (t : Bytes) : Prop :=
  s.data = t ∧ firstFail s.sched = firstFail sched₀ ∧
    deliveries sched₀ + t.length ≤ bs.length + deliveries s.sched ∧
    (firstFail sched₀ ≠ none → bs.length + capacity s.sched ≤ capacity sched₀ + t.length)

/-- the only way the scheduled run may leave the plain run: the error of the first `fail`, which
    is not reached when more `deliver` events precede it than there are bytes -/
def Esc (bs : Bytes) (sched₀ : List Ev) (e : Err) : Prop :=
  ∃ k, firstFail sched₀ = some k ∧ e = .io k ∧ deliveries sched₀ ≤ bs.length

theorem simSrc_stream (bs : Bytes) (sched₀ : List Ev) :
    SimSrc (Rel bs sched₀) (Esc bs sched₀) streamSrc bytesSrc := by
  intro n s t hst
  obtain ⟨data, sched⟩ := s
  obtain ⟨hd, hf, hdel, hc⟩ := hst
  simp only at hd hf hdel hc
  subst hd
  show RelRes _ _ (readExactGo sched n [] data) (bytesRead n data)
  rcases readExactGo_spec sched n [] data with
    ⟨s', h1, h2, h3, h4, h5⟩ | ⟨h1, h2⟩ | ⟨k, hk, h1, h2, _⟩
  · refine .inr (.inl ⟨data.take n, ⟨data.drop n, s'⟩, data.drop n, h1, if_pos h2, rfl,
      h3.trans hf, ?_, fun ho => ?_⟩)
    · simp only [List.length_drop]; omega
    · have := hc ho
      have := h5 (hf ▸ ho)
      simp only [List.length_drop]; omega
  · exact .inr (.inr (.inl ⟨_, h1, if_neg (Nat.not_le_of_lt h2)⟩))
  · exact .inl ⟨_, ⟨k, hf ▸ hk, rfl, by omega⟩, h1⟩

/-- loading from a scheduled reader against loading the plain bytes, for every schedule; the
    statements of C14 below are what `Rel` and `Esc` say for theirs -/
theorem sim_stream (inflate : Inflate) (m : Profile) (bs : Bytes) (sched : List Ev) :
    RelRes (Rel bs sched) (Esc bs sched)
      (parseFile streamSrc inflate m ⟨bs, sched⟩) (parseFile bytesSrc inflate m bs) :=
  sim_parseFile (simSrc_stream bs sched) inflate m ⟨bs, sched⟩ bs
    ⟨rfl, rfl, Nat.le_of_eq (Nat.add_comm ..), fun _ => Nat.le_of_eq (Nat.add_comm ..)⟩

/-- **C14 (independence of the delivery schedule)**: for every byte string, every inflater and
    every build profile, loading from a reader that delivers the bytes in arbitrary pieces and
    reports arbitrary many `Interrupted` gives exactly the result of loading the plain bytes
    (the same sprite, the same error, the same panic). -/
theorem parse_sched_indep (inflate : Inflate) (m : Profile) (bs : Bytes) (sched : List Ev)
    (h : NoFail sched) : parseStream inflate m ⟨bs, sched⟩ = parse inflate m bs := by
  rcases (sim_stream inflate m bs sched).map_fst with ⟨e, ⟨k, hk, _⟩, _⟩ | heq
  · exact nomatch ((noFail_iff _).1 h).symm.trans hk
  · exact heq

theorem firstFail_fail (pre : List Ev) (k : IoKind) (post : List Ev) (hpre : NoFail pre) :
    firstFail (pre ++ [Ev.fail k] ++ post) = some k := by
  rw [List.append_assoc]
  exact firstFail_append pre _ hpre

/-- **C14 (I/O errors are returned)**: if the first `fail k` event of the schedule comes after
    `pre`, the result is the one of the plain bytes (the parser finished, or failed for another
    reason, before consuming the failing event) or it is `Err(io k)`. -/
theorem io_error_returned (inflate : Inflate) (m : Profile) (bs : Bytes)
    (pre : List Ev) (k : IoKind) (post : List Ev) (hpre : NoFail pre) :
    parseStream inflate m ⟨bs, pre ++ [Ev.fail k] ++ post⟩ = parse inflate m bs ∨
    parseStream inflate m ⟨bs, pre ++ [Ev.fail k] ++ post⟩ = .err (.io k) := by
  rcases (sim_stream inflate m bs _).map_fst with ⟨e, ⟨k', hk, he, _⟩, h1⟩ | heq
  · cases (firstFail_fail pre k post hpre).symm.trans hk
    subst he
    exact .inr h1
  · exact .inl heq

/-- **C14 (sharper, the failing event is reached)**: if the plain bytes load and the events
    before the first `fail k` cannot deliver all the bytes the parser consumes, the result is
    `Err(io k)`. -/
theorem io_error_reached (inflate : Inflate) (m : Profile) (bs : Bytes)
    (pre : List Ev) (k : IoKind) (post : List Ev) (hpre : NoFail pre)
    (s : Sprite) (rest : Bytes) (hok : parseFile bytesSrc inflate m bs = .ok (s, rest))
    (hcap : capacity pre < bs.length - rest.length) :
    parseStream inflate m ⟨bs, pre ++ [Ev.fail k] ++ post⟩ = .err (.io k) := by
  have hff := firstFail_fail pre k post hpre
  rcases sim_stream inflate m bs (pre ++ [Ev.fail k] ++ post) with
    ⟨e, ⟨k', hk, he, _⟩, h1⟩ | ⟨a, s', t', _, h2, ⟨_, _, _, hr⟩⟩ | ⟨e, _, h2⟩ | ⟨p, _, h2⟩
  · cases hff.symm.trans hk
    subst he
    rw [parseStream, h1]; rfl
  · rw [hok] at h2
    cases h2
    have := hr (hff ▸ nofun)
    rw [List.append_assoc, capacity_append pre _ hpre] at this
    have h0 : capacity ([Ev.fail k] ++ post) = 0 := rfl
    omega
  · rw [hok] at h2; cases h2
  · rw [hok] at h2; cases h2

/-- `deliveries` stops at the first `fail`, so nothing need be said of where that is -/
theorem fail_out_of_reach (inflate : Inflate) (m : Profile) (bs : Bytes) (sched : List Ev)
    (hlen : bs.length < deliveries sched) :
    parseStream inflate m ⟨bs, sched⟩ = parse inflate m bs := by
  rcases (sim_stream inflate m bs sched).map_fst with ⟨e, ⟨k, _, _, hd⟩, _⟩ | heq
  · omega
  · exact heq

/-- **C14 (sharper, the failing event is not reached)**: if more `deliver` events precede the
    first `fail` than the file has bytes, whatever follows them (`fail` events included) has no
    influence: the result is the one of the plain bytes. -/
theorem io_error_not_reached (inflate : Inflate) (m : Profile) (bs : Bytes)
    (pre post : List Ev) (hpre : NoFail pre) (hlen : bs.length < deliveries pre) :
    parseStream inflate m ⟨bs, pre ++ post⟩ = parse inflate m bs :=
  fail_out_of_reach inflate m bs _
    (Nat.lt_of_lt_of_le hlen (deliveries_append pre post hpre ▸ Nat.le_add_right ..))

example : NoFail [.deliver 1, .interrupted, .deliver 3, .deliver 0] :=
  (noFail_iff _).2 rfl

/-- the loop really assembles the four bytes from three short reads and one retry -/
example : readExact 4 ⟨[1, 2, 3, 4, 5], [.deliver 1, .interrupted, .deliver 2, .deliver 0, .deliver 9]⟩
    = .ok ([1, 2, 3, 4], ⟨[5], [.deliver 9]⟩) := by decide

/-- a reader that hits the end of the data reports `UnexpectedEof` -/
example : readExact 4 ⟨[1, 2, 3], [.deliver 1, .interrupted, .deliver 5, .deliver 1]⟩
    = .err (.io .unexpectedEof) := by decide

/-- an injected error is returned by the loop -/
example : readExact 4 ⟨[1, 2, 3, 4, 5], [.deliver 1, .interrupted, .fail (.other 7), .deliver 9]⟩
    = .err (.io (.other 7)) := by decide

example (inflate : Inflate) (m : Profile) (bs : Bytes) :
    parseStream inflate m ⟨bs, [.deliver 1, .interrupted, .deliver 3, .deliver 0]⟩
      = parse inflate m bs :=
  parse_sched_indep inflate m bs _ ((noFail_iff _).2 rfl)

/-- a reader that fails at its first call makes loading fail with that error -/
example (inflate : Inflate) (m : Profile) (bs : Bytes) (k : IoKind) (post : List Ev) :
    parseStream inflate m ⟨bs, [.interrupted] ++ [Ev.fail k] ++ post⟩ = .err (.io k) := by
  have h : parseFile streamSrc inflate m ⟨bs, [.interrupted] ++ [Ev.fail k] ++ post⟩
      = .err (.io k) := by
    unfold parseFile readHeader readU32
    exact RdS.bind_err (RdS.bind_err (RdS.bind_err rfl))
  rw [parseStream, h]; rfl

/-- a minimal file that loads (128-byte header, one 16-byte frame without chunks): the same
    bytes as `C13.tiny` -/
def tiny : Bytes :=
  [144, 0, 0, 0, 0xE0, 0xA5, 1, 0, 1, 0, 1, 0, 32, 0] ++ List.replicate 114 0 ++
  [16, 0, 0, 0, 0xFA, 0xF1, 0, 0, 100, 0, 0, 0, 0, 0, 0, 0]

theorem tiny_loads (inflate : Inflate) (m : Profile) :
    ∃ s, parseFile bytesSrc inflate m tiny = .ok (s, []) :=
  C13.tiny_loads inflate m

/-- `io_error_reached` applies: the events before the failure deliver at most 143 of the 144
    bytes, so loading fails with the injected error -/
example (inflate : Inflate) (m : Profile) (k : IoKind) :
    parseStream inflate m
      ⟨tiny, [.deliver 100, .interrupted, .deliver 43] ++ [Ev.fail k] ++ [.deliver 5]⟩
      = .err (.io k) := by
  obtain ⟨s, hs⟩ := tiny_loads inflate m
  exact io_error_reached inflate m tiny _ k _ ((noFail_iff _).2 rfl) s [] hs
    (by rw [show tiny.length = 144 from C13.tiny_length]; decide)

theorem firstFail_replicate (n d : Nat) : firstFail (List.replicate n (.deliver d)) = none :=
  (noFail_iff _).1 fun _ hk => nomatch List.eq_of_mem_replicate hk

theorem deliveries_replicate (n d : Nat) : deliveries (List.replicate n (.deliver d)) = n := by
  induction n with
  | zero => rfl
  | succ n ih => simp only [List.replicate_succ, deliveries, ih]; omega

/-- `io_error_not_reached` applies: 145 one-byte deliveries precede the failure -/
example (inflate : Inflate) (m : Profile) (k : IoKind) :
    parseStream inflate m ⟨tiny, List.replicate 145 (.deliver 1) ++ [Ev.fail k]⟩
      = parse inflate m tiny :=
  io_error_not_reached inflate m tiny _ _ ((noFail_iff _).2 (firstFail_replicate _ _))
    (by rw [deliveries_replicate, show tiny.length = 144 from C13.tiny_length]; decide)

end Ase.Proofs.C14
