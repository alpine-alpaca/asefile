import AseProofs.Props.C01Frames
import AseProofs.Lemmas.RunCore
/-
  C01  The decoded sprite structure equals what the file encodes — the whole-file theorem.

  `decode_encode`: for every well-formed chunk program `p` (every field arbitrary within the
  explicit side conditions `ProgramWF`), loading the bytes `Spec.encode p` gives exactly
  `Spec.semParse (headerSem p) (framesSem m p)`: the state machine of `Ase/Spec/Sem.lean` run
  over the *meanings* of the chunks, followed by validation.
-/
namespace Ase.Proofs.C01
open Ase Ase.Proofs Ase.Proofs.WholeFile

/-- The side conditions of the whole-file theorem.  Everything is decidable for a concrete
    program except the inflate equations inside `ChunkWF` (compressed cels / tilemaps /
    tilesets: `inflate (z ++ pad) = .ok pixels`).  `p.trailer` is unconstrained. -/
def ProgramWF (inflate : Inflate) (p : Spec.Program) : Prop :=
  p.header.reserved.length = 84 ∧
  p.frames.length ≤ 65535 ∧
  pixelRatioOk p.header.pixelW p.header.pixelH = true ∧
  (p.header.depth.toNat = 8 ∨ p.header.depth.toNat = 16 ∨ p.header.depth.toNat = 32) ∧
  ∀ f ∈ p.frames, FrameWF inflate (Spec.formatOf p.header.depth p.header.tci) f

/-- Well-formedness of a concrete program is decided by evaluation, up to the equations
    `inflate stream = .ok bytes`: these are decided for an inflater given as a table, and
    `ProgramWF.mono` carries the result over to every inflater that satisfies the table. -/
instance (inflate : Inflate) (p : Spec.Program) : Decidable (ProgramWF inflate p) := by
  unfold ProgramWF FrameWF ChunkWF; infer_instance

theorem ProgramWF.mono {inflate₀ inflate : Inflate}
    (hi : ∀ x y, inflate₀ x = .ok y → inflate x = .ok y) {p : Spec.Program}
    (h : ProgramWF inflate₀ p) : ProgramWF inflate p := by
  obtain ⟨hres, hn, hratio, hdepth, hframes⟩ := h
  refine ⟨hres, hn, hratio, hdepth, fun f hf => ?_⟩
  obtain ⟨hcount, hbytes, hcs⟩ := hframes f hf
  exact ⟨hcount, hbytes, fun c hc => ⟨(hcs c hc).1, (hcs c hc).2.mono hi⟩⟩

/-- one frame, one layer, one 1×1 raw RGBA cel, a few trailing bytes -/
def tinyProgram : Spec.Program :=
  { header := { fileSize := 0, width := 1, height := 1, depth := 32, flags := 1, speed := 100,
                ph1 := 0, ph2 := 0, tci := 0, ign1 := 0, ign2 := 0, numColors := 0,
                pixelW := 1, pixelH := 1, gridX := 0, gridY := 0, gridW := 16, gridH := 16,
                reserved := zeros 84 },
    frames := [{ duration := 100, oldCountOnly := false, oldField := 2, ph := 0, slack := 0,
                 chunks := [
                   ⟨.layer ⟨3, 0, 0, 0, 0, 0, 255, 0, 0, [76, 49], 0⟩, []⟩,
                   ⟨.cel ⟨0, 0, 0, 255, zeros 7, .image 1 1 [10, 20, 30, 255] none⟩, [7]⟩] }],
    trailer := [1, 2, 3] }

theorem tinyProgram_wf (inflate : Inflate) : ProgramWF inflate tinyProgram :=
  ProgramWF.mono (inflate₀ := fun _ => .err .invalid) (fun _ _ h => nomatch h) (by decide +kernel)

theorem parsePixelFormat_ok (depth : UInt16) (tci : UInt8)
    (h : depth.toNat = 8 ∨ depth.toNat = 16 ∨ depth.toNat = 32) :
    parsePixelFormat depth tci = .ok (Spec.formatOf depth tci) := by
  rcases h with h | h | h <;>
    simp only [parsePixelFormat, h, Spec.formatOf, Nat.reduceEqDiff, ↓reduceIte]

/-- **C01**, whole file: loading the encoding of a well-formed program gives the semantic
    result — for every inflater satisfying the program's inflate equations, both build
    profiles, arbitrary trailing bytes. -/
theorem decode_encode (inflate : Inflate) (m : Profile) (p : Spec.Program)
    (hwf : ProgramWF inflate p) :
    parse inflate m (Spec.encode p) = Spec.semParse (Spec.headerSem p) (Spec.framesSem m p) := by
  obtain ⟨hres, hn, hratio, hdepth, hframes⟩ := hwf
  have hnum : (UInt16.ofNat p.frames.length).toNat = p.frames.length :=
    UInt16.toNat_ofNat_of_lt' (Nat.lt_succ_of_le hn)
  have hindep := runFrames_new_indep
    (p.frames.map (Spec.frameSem (Spec.formatOf p.header.depth p.header.tci) m)) p.header.speed
  rw [List.length_map] at hindep
  have e : ∀ (r : Res Sprite) (t : Bytes), Res.map (·.1) (RdS.lift r t) = r :=
    fun r _ => by cases r <;> rfl
  unfold parse parseFile Spec.encode Spec.semParse
  rw [List.append_assoc, RdS.bind_ok (readHeader_roundtrip p.header p.frames.length _ hres)]
  simp only [hratio, Bool.not_true, Bool.false_eq_true, if_false, parsePixelFormat_ok _ _ hdepth,
    rd_lift_ok_bind, hnum, Spec.headerSem, Spec.framesSem]
  rw [RdS.bind_run, parseFrames_enc inflate m _ p.frames p.trailer 0 _ hframes, hindep]
  cases Spec.runFrames 0 (ParseInfo.new p.frames.length 0)
      (p.frames.map (Spec.frameSem (Spec.formatOf p.header.depth p.header.tci) m)) with
  | ok pi => exact e _ _
  | err e => rfl
  | panic s => rfl

/-- a well-formed program loads as soon as its meaning validates; the meaning is taken in one
    profile, since no item's meaning mentions it -/
theorem loads_of_sem {inflate : Inflate} {m : Profile} {p : Spec.Program}
    (hwf : ProgramWF inflate p)
    (h : (Spec.semParse (Spec.headerSem p) (Spec.framesSem Profile.release p)).isOk = true) :
    (parse inflate m (Spec.encode p)).isOk = true := by
  have e : Spec.framesSem m p = Spec.framesSem Profile.release p :=
    List.map_congr_left fun f _ => congrArg (Prod.mk f.duration)
      (List.map_congr_left fun ⟨item, _⟩ _ => by cases item <;> rfl)
  rw [decode_encode inflate m p hwf, e]
  exact h

theorem semParse_ok {h : Spec.SHeader} {frames : List (UInt16 × List Spec.SItem)} {s : Sprite}
    (hs : Spec.semParse h frames = .ok s) :
    ∃ pi, Spec.runFrames 0 (ParseInfo.new h.numFrames.toNat 0) frames = .ok pi ∧
      validate h.toHeader h.format pi = .ok s := by
  unfold Spec.semParse at hs
  split at hs
  · exact ⟨_, ‹_›, hs⟩
  · cases hs
  · cases hs

theorem sprite_header {h : Spec.SHeader} {frames : List (UInt16 × List Spec.SItem)} {s : Sprite}
    (hs : Spec.semParse h frames = .ok s) :
    s.width = h.width ∧ s.height = h.height ∧ s.numFrames = h.numFrames ∧ s.format = h.format := by
  obtain ⟨pi, _, hv⟩ := semParse_ok hs
  exact validate_header hv

/-- **C01, tables**: the frame times are the frame durations, in order (when the header's frame
    count is the number of frames, as in every encoded program) -/
theorem sprite_frameTimes {h : Spec.SHeader} {frames : List (UInt16 × List Spec.SItem)}
    {s : Sprite} (hs : Spec.semParse h frames = .ok s) (hn : h.numFrames.toNat = frames.length) :
    s.frameTimes = (frames.map (·.1)).toArray := by
  obtain ⟨pi, hr, hv⟩ := semParse_ok hs
  rw [validate_frameTimes hv, runFrames_frameTimes frames 0 _ pi hr, hn]
  exact ftSet_replicate frames 0

/-- **C01, tables**: for an encoded program: the loaded sprite reports the header's canvas size and
    colour depth, the number of frames and each frame's duration -/
theorem loaded_header (inflate : Inflate) (m : Profile) (p : Spec.Program)
    (hwf : ProgramWF inflate p) (s : Sprite) (hs : parse inflate m (Spec.encode p) = .ok s) :
    s.width = p.header.width ∧ s.height = p.header.height ∧
    s.numFrames.toNat = p.frames.length ∧
    s.format = Spec.formatOf p.header.depth p.header.tci ∧
    s.frameTimes = (p.frames.map (·.duration)).toArray := by
  have hn : (UInt16.ofNat p.frames.length).toNat = p.frames.length :=
    UInt16.toNat_ofNat_of_lt' (Nat.lt_succ_of_le hwf.2.1)
  rw [decode_encode inflate m p hwf] at hs
  obtain ⟨h1, h2, h3, h4⟩ := sprite_header hs
  have h5 := sprite_frameTimes hs
    (by simp only [Spec.headerSem, hn, Spec.framesSem, List.length_map])
  refine ⟨h1, h2, (congrArg UInt16.toNat h3).trans hn, h4, ?_⟩
  rw [h5, Spec.framesSem, List.map_map]
  rfl

theorem sprite_layers {h : Spec.SHeader} {frames : List (UInt16 × List Spec.SItem)} {s : Sprite}
    (hs : Spec.semParse h frames = .ok s) :
    s.layers.toList.map stripL = (layerItems (allItems frames)).map stripL := by
  obtain ⟨pi, hr, hv⟩ := semParse_ok hs
  rw [validate_layers hv]
  simpa [core, ParseInfo.new] using runFrames_layers frames hr

theorem sprite_slices {h : Spec.SHeader} {frames : List (UInt16 × List Spec.SItem)} {s : Sprite}
    (hs : Spec.semParse h frames = .ok s) :
    s.slices.toList.map stripS = (sliceItems (allItems frames)).map stripS := by
  obtain ⟨pi, hr, hv⟩ := semParse_ok hs
  rw [validate_slices hv]
  simpa [core, ParseInfo.new] using runFrames_slices frames hr

theorem sprite_tags {h : Spec.SHeader} {d : UInt16} {its : List Spec.SItem}
    {rest : List (UInt16 × List Spec.SItem)} {s : Sprite}
    (hs : Spec.semParse h ((d, its) :: rest) = .ok s) :
    s.tags.toList.map stripT = ((lastTagsItem its).getD []).map stripT := by
  obtain ⟨pi, hr, hv⟩ := semParse_ok hs
  rw [validate_tags hv]
  have hk : pi.tags.map (·.map stripT) = (lastTagsItem its).map (·.toArray.map stripT) :=
    runFrames_tags hr rfl
  -- both sides of `hk` read as lists, `none` as the empty table
  have := congrArg (fun o => (Option.getD o #[]).toList) hk
  revert this
  show _ → (pi.tags.getD #[]).toList.map stripT = _
  cases pi.tags <;> cases lastTagsItem its <;> simp

theorem sprite_tags_nil {h : Spec.SHeader} {s : Sprite} (hs : Spec.semParse h [] = .ok s) :
    s.tags = #[] := by
  obtain ⟨pi, hr, hv⟩ := semParse_ok hs
  rw [validate_tags hv]
  cases hr
  rfl

/-- the layer chunks of a program, in file order, as the API reports them (without user data) -/
def programLayers (p : Spec.Program) : List LayerData :=
  (p.frames.flatMap (·.chunks)).filterMap (fun c => match c.item with
    | .layer l => some (Spec.layerOfSpec l)
    | _ => none)

def programSlices (p : Spec.Program) : List Slice :=
  (p.frames.flatMap (·.chunks)).filterMap (fun c => match c.item with
    | .slice sl => some (Spec.sliceOfSpec sl)
    | _ => none)

def tagsSpec? : Spec.Item → Option (List Spec.TagSpec)
  | .tags _ ts => some ts
  | _ => none

def lastTagsSpec (cs : List Spec.ChunkSpec) : Option (List Spec.TagSpec) :=
  ((cs.map (·.item)).filterMap tagsSpec?).getLast?

def programTags (p : Spec.Program) : List Tag :=
  match p.frames with
  | [] => []
  | f :: _ => ((lastTagsSpec f.chunks).getD []).map Spec.tagOfSpec

/-- selecting among the meanings of items is selecting among the items -/
theorem filterMap_semItem {β γ} (fmt : PixelFormat) (m : Profile) (sel : Spec.SItem → Option γ)
    (raw : Spec.Item → Option β) (k : β → γ)
    (h : ∀ it, sel (Spec.semItem fmt m it) = (raw it).map k) (its : List Spec.Item) :
    (its.map (Spec.semItem fmt m)).filterMap sel = (its.filterMap raw).map k := by
  rw [List.filterMap_map, List.map_filterMap]
  exact congrArg (List.filterMap · its) (funext h)

theorem allItems_framesSem (fmt : PixelFormat) (m : Profile) (fs : List Spec.FrameSpec) :
    allItems (fs.map (Spec.frameSem fmt m)) =
      (fs.flatMap (·.chunks)).map (fun c => Spec.semItem fmt m c.item) := by
  rw [allItems, List.flatMap_map, List.map_flatMap]
  rfl

theorem lastTagsItem_sem (fmt : PixelFormat) (m : Profile) (cs : List Spec.ChunkSpec) :
    lastTagsItem (cs.map (fun c => Spec.semItem fmt m c.item)) =
      (lastTagsSpec cs).map (·.map Spec.tagOfSpec) := by
  rw [lastTagsItem, lastTagsSpec, ← List.getLast?_map, ← filterMap_semItem fmt m tagsItem?,
    List.map_map]
  · rfl
  · intro it
    cases it <;> rfl

theorem stripL_layerOfSpec (l : Spec.LayerSpec) : stripL (Spec.layerOfSpec l) = Spec.layerOfSpec l :=
  rfl
theorem stripS_sliceOfSpec (sl : Spec.SliceSpec) : stripS (Spec.sliceOfSpec sl) = Spec.sliceOfSpec sl :=
  rfl
theorem stripT_tagOfSpec (t : Spec.TagSpec) : stripT (Spec.tagOfSpec t) = Spec.tagOfSpec t := rfl

/-- **C01, tables**: layers of a loaded file: up to attached user data, the layer chunks in file
    order, each with flags (low 7 bits), name, blend mode, opacity, type and child level as stored
    -/
theorem loaded_layers (inflate : Inflate) (m : Profile) (p : Spec.Program)
    (hwf : ProgramWF inflate p) (s : Sprite) (hs : parse inflate m (Spec.encode p) = .ok s) :
    s.layers.toList.map stripL = programLayers p := by
  rw [decode_encode inflate m p hwf] at hs
  rw [sprite_layers hs, Spec.framesSem, allItems_framesSem, layerItems, List.filterMap_map,
    List.map_filterMap, programLayers]
  exact congrArg (List.filterMap · _) (funext fun ⟨item, _⟩ => by cases item <;> rfl)

/-- **C01, tables**: slices of a loaded file: up to attached user data, the slice chunks in file
    order -/
theorem loaded_slices (inflate : Inflate) (m : Profile) (p : Spec.Program)
    (hwf : ProgramWF inflate p) (s : Sprite) (hs : parse inflate m (Spec.encode p) = .ok s) :
    s.slices.toList.map stripS = programSlices p := by
  rw [decode_encode inflate m p hwf] at hs
  rw [sprite_slices hs, Spec.framesSem, allItems_framesSem, sliceItems, List.filterMap_map,
    List.map_filterMap, programSlices]
  exact congrArg (List.filterMap · _) (funext fun ⟨item, _⟩ => by cases item <;> rfl)

/-- **C01, tables**: tags of a loaded file: up to attached user data, the tags of the last tags
    chunk of the first frame -/
theorem loaded_tags (inflate : Inflate) (m : Profile) (p : Spec.Program)
    (hwf : ProgramWF inflate p) (s : Sprite) (hs : parse inflate m (Spec.encode p) = .ok s) :
    s.tags.toList.map stripT = programTags p := by
  rw [decode_encode inflate m p hwf] at hs
  obtain ⟨hdr, frames, trailer⟩ := p
  cases frames with
  | nil =>
      rw [sprite_tags_nil hs]
      rfl
  | cons f t =>
      rw [sprite_tags (d := f.duration) (rest := t.map (Spec.frameSem _ m)) hs, lastTagsItem_sem]
      show _ = ((lastTagsSpec f.chunks).getD []).map Spec.tagOfSpec
      cases lastTagsSpec f.chunks with
      | none => rfl
      | some ts => exact List.map_map.trans (List.map_congr_left fun _ _ => rfl)

example (inflate : Inflate) (m : Profile) :
    parse inflate m (Spec.encode tinyProgram) =
      Spec.semParse (Spec.headerSem tinyProgram) (Spec.framesSem m tinyProgram) :=
  decode_encode inflate m tinyProgram (tinyProgram_wf inflate)

/-- `tinyProgram` loads, so `decode_encode` is not only about error results -/
theorem tinyProgram_loads (inflate : Inflate) (m : Profile) :
    (parse inflate m (Spec.encode tinyProgram)).isOk = true :=
  loads_of_sem (tinyProgram_wf inflate) (by decide +kernel)

end Ase.Proofs.C01
