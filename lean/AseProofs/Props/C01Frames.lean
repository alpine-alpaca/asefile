import AseProofs.Lemmas.Run
import AseProofs.Props.C01
/-
  From the per-chunk round-trip lemmas of `Props/C01.lean` to whole frames and files:
  `processChunk` on an encoded chunk is `stepSem` of the chunk's meaning, `parseFrame` on an
  encoded frame is `runFrame`, `parseFrames` on the concatenation of encoded frames is
  `runFrames`.
-/
namespace Ase.Proofs.WholeFile
open Ase Ase.Proofs Ase.Proofs.C01

/-! ### the spec functions of `Ase/Spec/Sem.lean` are those of the C01 statements -/

theorem rawPixelsOf_eq : Spec.rawPixelsOf = C01.rawPixelsOf := rfl
theorem tagOfSpec_eq : Spec.tagOfSpec = C01.tagOfSpec := rfl
theorem sliceKeyOfSpec_eq : Spec.sliceKeyOfSpec = C01.sliceKeyOfSpec := rfl
theorem palEntryOfSpec_eq : Spec.palEntryOfSpec = C01.palEntryOfSpec := rfl
theorem extFileOfSpec_eq : Spec.extFileOfSpec = C01.extFileOfSpec := rfl
theorem oldColor_eq : Spec.oldColor = C01.oldColor := rfl

/-- side conditions of a cel body; `pad` are the chunk's trailing bytes (the inflater is handed
    the rest of the chunk, i.e. the stored stream followed by them) -/
def CelBodyWF (inflate : Inflate) (fmt : PixelFormat) (pad : Bytes) : Spec.CelBody → Prop
  | .image w h px none => px.length = fmt.bpp * (w.toNat * h.toNat)
  | .image w h px (some z) =>
      inflate (z ++ pad) = .ok px ∧ px.length = fmt.bpp * (w.toNat * h.toNat)
  | .linked _ => True
  | .tilemap w h _ tiles z =>
      inflate (z ++ pad) = .ok ((tiles.map u32le).flatten) ∧ tiles.length = w.toNat * h.toNat

/-- The per-kind side conditions of the C01 round-trip lemmas. -/
def ItemWF (inflate : Inflate) (fmt : PixelFormat) (c : Spec.ChunkSpec) : Prop :=
  match c.item with
  | .layer l =>
      l.name.length < 65536 ∧ validUtf8 l.name = true ∧ l.ltype.toNat ≤ 2 ∧ l.blend.toNat ≤ 18
  | .cel cs => cs.reserved.length = 7 ∧ CelBodyWF inflate fmt c.pad cs.body
  | .tags r ts => r.length = 8 ∧ ts.length < 65536 ∧ ∀ t ∈ ts, TagOk t
  | .slice s =>
      s.keys.length < 4294967296 ∧ s.name.length < 65536 ∧ validUtf8 s.name = true
  | .palette _ first r es =>
      r.length = 8 ∧ es ≠ [] ∧ first.toNat + es.length - 1 < 4294967296 ∧ ∀ e ∈ es, PalEntryOk e
  | .oldPalette scaled ps => ps.length < 65536 ∧ ∀ pk ∈ ps, OldPacketOk scaled pk
  | .userData f t _ =>
      (f.toNat % 2 = 1 → t.length < 65536) ∧ (f.toNat % 2 = 1 → validUtf8 t = true)
  | .extFiles r fs => r.length = 8 ∧ fs.length < 4294967296 ∧ ∀ f ∈ fs, ExtFileOk f
  | .tileset t =>
      t.reserved.length = 14 ∧ t.name.length < 65536 ∧ validUtf8 t.name = true ∧
      t.tw.toNat ≠ 0 ∧ t.th.toNat ≠ 0 ∧
      (t.flags.toNat / 2 % 2 = 1 → TilesetPixelsOk inflate fmt t c.pad)
  | .colorProfile ptype flags _ r => r.length = 8 ∧ ptype.toNat ≤ 1 ∧ flags.toNat % 2 = 0
  | .ignorable code _ => code.toNat = 0x2006 ∨ code.toNat = 0x2016 ∨ code.toNat = 0x2017

def ChunkWF (inflate : Inflate) (fmt : PixelFormat) (c : Spec.ChunkSpec) : Prop :=
  chunkSize c < 4294967296 ∧ ItemWF inflate fmt c

theorem ChunkWF.chunkOk {inflate fmt c} (h : ChunkWF inflate fmt c) : ChunkOk c := by
  refine ⟨h.1, ?_⟩
  obtain ⟨item, pad⟩ := c
  cases item <;> first | trivial | exact h.2

instance (inflate : Inflate) (fmt : PixelFormat) (pad : Bytes) (b : Spec.CelBody) :
    Decidable (CelBodyWF inflate fmt pad b) := by unfold CelBodyWF; split <;> infer_instance
instance (inflate : Inflate) (fmt : PixelFormat) (c : Spec.ChunkSpec) :
    Decidable (ItemWF inflate fmt c) := by unfold ItemWF; split <;> infer_instance

/-- the inflater enters well-formedness only through equations `inflate stream = .ok bytes` -/
theorem ItemWF.mono {inflate₀ inflate : Inflate}
    (hi : ∀ x y, inflate₀ x = .ok y → inflate x = .ok y) {fmt : PixelFormat}
    {c : Spec.ChunkSpec} (h : ItemWF inflate₀ fmt c) : ItemWF inflate fmt c := by
  obtain ⟨item, pad⟩ := c
  cases item with
  | cel cs =>
      obtain ⟨layer, x, y, op, res, body⟩ := cs
      refine ⟨h.1, ?_⟩
      cases body with
      | image w hh px z =>
          cases z with
          | none => exact h.2
          | some z => exact ⟨hi _ _ h.2.1, h.2.2⟩
      | linked f => trivial
      | tilemap w hh mask tiles z => exact ⟨hi _ _ h.2.1, h.2.2⟩
  | tileset t =>
      obtain ⟨h1, h2, h3, h4, h5, h6⟩ := h
      exact ⟨h1, h2, h3, h4, h5, fun hf => ⟨(h6 hf).1, hi _ _ (h6 hf).2.1, (h6 hf).2.2⟩⟩
  | _ => exact h

theorem cel_roundtrip (inflate : Inflate) (fmt : PixelFormat) (c : Spec.CelSpec) (pad : Bytes)
    (hres : c.reserved.length = 7) (hb : CelBodyWF inflate fmt pad c.body) :
    runChunk (parseCelChunk inflate fmt) (Spec.encCel c ++ pad) = .ok (Spec.celOfSpec fmt c) := by
  obtain ⟨layer, x, y, op, res, body⟩ := c
  cases body with
  | image w h px z =>
      cases z with
      | none => exact cel_raw_roundtrip inflate fmt _ w h px pad hres rfl hb
      | some z => exact cel_compressed_roundtrip inflate fmt _ w h px z pad hres rfl hb.1 hb.2
  | linked f => exact cel_linked_roundtrip inflate fmt _ f pad hres rfl
  | tilemap w h mask tiles z =>
      exact cel_tilemap_roundtrip' inflate fmt _ w h mask tiles z pad hres rfl hb.1 hb.2

/-- **C01, frames**: one chunk: `processChunk` on the chunk an encoded item is read back as is
    `Spec.stepSem` of the item's meaning, from every state -/
theorem processChunk_enc (inflate : Inflate) (m : Profile) (fmt : PixelFormat) (frame : Nat)
    (pi : ParseInfo) (c : Spec.ChunkSpec) (hwf : ItemWF inflate fmt c) :
    processChunk inflate m fmt frame pi (chunkOf c) =
      Spec.stepSem frame pi (Spec.semItem fmt m c.item) := by
  obtain ⟨item, pad⟩ := c
  cases item <;> simp only [chunkOf, itemType, Spec.encItem, processChunk]
  -- per kind: the side conditions of `ItemWF` are those of the kind's round-trip lemma, and
  -- what is left is the `stepSem` branch of the item
  case layer l =>
    obtain ⟨hname, hutf, hty, hbl⟩ := hwf
    rw [layer_roundtrip l pad hname hutf hty hbl]
    rfl
  case cel cs =>
    obtain ⟨hres, hbody⟩ := hwf
    rw [cel_roundtrip inflate fmt cs pad hres hbody]
    rfl
  case tags r ts =>
    obtain ⟨hres, hlen, hts⟩ := hwf
    rw [tags_roundtrip r ts pad hres hlen hts]
    rfl
  case slice s =>
    obtain ⟨hkeys, hlen, hutf⟩ := hwf
    rw [slice_roundtrip s pad hkeys hlen hutf]
    rfl
  case palette total first r es =>
    obtain ⟨hres, hne, hlast, hes⟩ := hwf
    rw [palette_roundtrip total first r es pad hres hne hlast hes]
    rfl
  case oldPalette scaled ps =>
    obtain ⟨hlen, hps⟩ := hwf
    have h := oldPalette_roundtrip m scaled ps pad hlen hps
    -- both kinds: decoded only if no palette is stored, which is when `stepSem` stores it
    cases scaled <;>
    · simp only [h, Bool.false_eq_true, if_false, if_true, Spec.semItem, Spec.stepSem]
      cases pi.palette <;> rfl
  case userData f t col =>
    obtain ⟨hlen, hutf⟩ := hwf
    rw [userData_roundtrip f t col pad hlen hutf]
    rfl
  case extFiles r fs =>
    obtain ⟨hres, hlen, hfs⟩ := hwf
    rw [extFiles_roundtrip r fs pad hres hlen hfs]
    rfl
  case tileset t =>
    obtain ⟨hres, hlen, hutf, htw, hth, hpix⟩ := hwf
    rw [tileset_roundtrip inflate fmt t pad hres hlen hutf htw hth hpix]
    rfl
  case colorProfile ptype flags gamma r =>
    obtain ⟨hres, hty, hfl⟩ := hwf
    rw [colorProfile_roundtrip ptype flags gamma r pad hres hty hfl]
    rfl
  case ignorable code payload =>
    have hwf : code.toNat = 0x2006 ∨ code.toNat = 0x2016 ∨ code.toNat = 0x2017 := hwf
    rcases hwf with h | h | h <;> simp only [h, Nat.reduceEqDiff, if_true, if_false] <;> rfl

theorem processChunks_enc (inflate : Inflate) (m : Profile) (fmt : PixelFormat) (frame : Nat)
    (cs : List Spec.ChunkSpec) : ∀ (pi : ParseInfo), (∀ c ∈ cs, ItemWF inflate fmt c) →
      processChunks inflate m fmt frame pi (cs.map chunkOf) =
        Spec.runItems frame pi (cs.map (fun c => Spec.semItem fmt m c.item)) := by
  induction cs with
  | nil =>
      intro pi _
      rfl
  | cons c t ih =>
      intro pi h
      simp only [List.map_cons, processChunks, Spec.runItems,
        processChunk_enc inflate m fmt frame pi c (h c List.mem_cons_self)]
      cases Spec.stepSem frame pi (Spec.semItem fmt m c.item) with
      | ok pi' => exact ih pi' (fun y hy => h y (List.mem_cons_of_mem _ hy))
      | err e => rfl
      | panic s => rfl

/-- a well-formed frame: the chunk count fits the field that carries it, the declared frame size
    fits its u32 field, every chunk is well formed -/
def FrameWF (inflate : Inflate) (fmt : PixelFormat) (f : Spec.FrameSpec) : Prop :=
  f.chunks.length < (if f.oldCountOnly then 65536 else 4294967296) ∧
  frameBytes f < 4294967296 ∧
  ∀ c ∈ f.chunks, ChunkWF inflate fmt c

theorem parseFrame_enc (inflate : Inflate) (m : Profile) (fmt : PixelFormat) (frame : Nat)
    (pi : ParseInfo) (f : Spec.FrameSpec) (rest : Bytes) (hwf : FrameWF inflate fmt f) :
    parseFrame bytesSrc inflate m fmt frame pi (Spec.encFrame f ++ rest) =
      (Spec.runFrame frame f.duration pi (Spec.frameSem fmt m f).2).map (·, rest) := by
  obtain ⟨hcount, hbytes, hcs⟩ := hwf
  unfold parseFrame
  rw [RdS.bind_ok (readFrameHeader_roundtrip f rest)]
  -- `hcount` is the bound of whichever count field is in use
  have hold : f.oldCountOnly = true → f.chunks.length < 65536 :=
    fun h => by simpa only [h, if_true] using hcount
  have hnew : f.oldCountOnly = false → f.chunks.length < 4294967296 :=
    fun h => by simpa only [h, Bool.false_eq_true, if_false] using hcount
  simp only [frame_numChunks f hold hnew, UInt32.toNat_ofNat_of_lt' hbytes]
  rw [RdS.bind_ok (readChunks_roundtrip f.chunks _ rest (fun c hc => (hcs c hc).chunkOk)
      (by unfold frameBytes; omega)),
    processChunks_enc inflate m fmt frame f.chunks _ (fun c hc => (hcs c hc).2)]
  rfl

/-- **C01, frames**: all frames: `parseFrames` over the concatenation of the encoded frames is
    `Spec.runFrames` over their meanings, and stops exactly behind the last frame -/
theorem parseFrames_enc (inflate : Inflate) (m : Profile) (fmt : PixelFormat)
    (frames : List Spec.FrameSpec) (rest : Bytes) : ∀ (frame : Nat) (pi : ParseInfo),
      (∀ f ∈ frames, FrameWF inflate fmt f) →
      parseFrames bytesSrc inflate m fmt frames.length frame pi
          ((frames.map Spec.encFrame).flatten ++ rest) =
        (Spec.runFrames frame pi (frames.map (Spec.frameSem fmt m))).map (·, rest) := by
  induction frames with
  | nil =>
      intro frame pi _
      rfl
  | cons f t ih =>
      intro frame pi h
      rw [List.length_cons, List.map_cons, List.flatten_cons, List.append_assoc, parseFrames,
        RdS.bind_run, parseFrame_enc inflate m fmt frame pi f _ (h f List.mem_cons_self),
        List.map_cons,
        show Spec.frameSem fmt m f = (f.duration, (Spec.frameSem fmt m f).2) from rfl,
        runFrames_cons]
      cases Spec.runFrame frame f.duration pi (Spec.frameSem fmt m f).2 with
      | ok pi' => exact ih (frame + 1) pi' (fun y hy => h y (List.mem_cons_of_mem _ hy))
      | err e => rfl
      | panic s => rfl

end Ase.Proofs.WholeFile
