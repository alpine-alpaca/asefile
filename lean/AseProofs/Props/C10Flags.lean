import AseProofs.Props.C01
namespace Ase.Proofs.C10
open Ase

/-- C10, encoder side: text and colour are each reported only when their flag is set - for the
    encoding of any flags word, text and colour (restating `C01.userData_roundtrip`; for every
    byte string on the decoder side: `flags_text_colour_decode` in `Props/C10.lean`) -/
theorem flags_text_colour (flags : UInt32) (text : Bytes) (color : RGBA) (pad : Bytes)
    (hlen : flags.toNat % 2 = 1 → text.length < 65536)
    (hutf : flags.toNat % 2 = 1 → validUtf8 text = true) :
    ∃ ud, runChunk parseUserDataChunk (Spec.encUserData flags text color ++ pad) = .ok ud ∧
      (ud.text = if flags.toNat % 2 = 1 then some text else none) ∧
      (ud.color = if flags.toNat / 2 % 2 = 1 then some color else none) :=
  ⟨_, C01.userData_roundtrip flags text color pad hlen hutf, rfl, rfl⟩

end Ase.Proofs.C10
