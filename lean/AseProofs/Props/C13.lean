import AseProofs.Lemmas.Uniform
import AseProofs.Props.C01
/-
  C13  Truncated files are rejected: a prefix that ends before the end of the last frame
       never loads; it fails with `UnexpectedEof`.
-/
namespace Ase.Proofs.C13
open Ase Ase.Proofs.SrcSim

/-- **C13**: if `bs` loads and the parser stops after `bs.length - rest.length` bytes (the end
    of the last frame), every shorter prefix of `bs` is rejected with `UnexpectedEof`, whatever
    the inflater and the build profile: each read that succeeded on the full input lies inside
    the prefix, and succeeds identically, or crosses its end. -/
theorem truncated_rejected (inflate : Inflate) (m : Profile) (bs : Bytes) (s : Sprite)
    (rest : Bytes) (h : parseFile bytesSrc inflate m bs = .ok (s, rest)) (k : Nat)
    (hk : k < bs.length - rest.length) :
    parse inflate m (bs.take k) = .err (.io .unexpectedEof) := by
  obtain ⟨used, rfl, _, htr⟩ := strict_parseFile inflate m bs s rest h
  rw [List.length_append, Nat.add_sub_cancel] at hk
  rw [parse, List.take_append_of_le_length (Nat.le_of_lt hk), htr k hk]
  rfl

/-- **C13 (trailing bytes)**: the parser never reads beyond what it reports as consumed: the
    result on `bs` only depends on the consumed prefix (anything may follow the last frame) -/
theorem trailing_irrelevant (inflate : Inflate) (m : Profile) (bs : Bytes) (s : Sprite)
    (rest : Bytes) (h : parseFile bytesSrc inflate m bs = .ok (s, rest)) (tl : Bytes) :
    parse inflate m (bs.take (bs.length - rest.length) ++ tl) = .ok s := by
  obtain ⟨used, rfl, hext, _⟩ := strict_parseFile inflate m bs s rest h
  rw [parse, List.length_append, Nat.add_sub_cancel, List.take_left' rfl, hext tl]
  rfl

/-- a minimal file: the 128-byte header (one frame, 1×1, RGBA) and one frame of 16 bytes
    without chunks -/
def tiny : Bytes :=
  [144, 0, 0, 0, 0xE0, 0xA5, 1, 0, 1, 0, 1, 0, 32, 0] ++ List.replicate 114 0 ++
  [16, 0, 0, 0, 0xFA, 0xF1, 0, 0, 100, 0, 0, 0, 0, 0, 0, 0]

/-- a `Bool`, so that evaluation decides it once; `tiny_loads` reads the sprite off by `match` -/
def loadsAll {α} : Res (α × Bytes) → Bool
  | .ok (_, []) => true
  | _ => false

/-- the header by `C01.readHeader_roundtrip`, the 16 bytes of the frame and the validation of
    the empty state by evaluation of the model -/
theorem tiny_loads (inflate : Inflate) (m : Profile) :
    ∃ s, parseFile bytesSrc inflate m tiny = .ok (s, []) := by
  have he : tiny =
      Spec.encHeader ⟨144, 1, 1, 32, 0, 0, 0, 0, 0, 0, 0, 0, 0, 0, 0, 0, 0, 0, zeros 84⟩ 1
        ++ tiny.drop 128 := by with_unfolding_all rfl
  have h : loadsAll (parseFile bytesSrc inflate m tiny) = true := by
    rw [he, parseFile, RdS.bind_ok (C01.readHeader_roundtrip _ 1 _ rfl)]
    with_unfolding_all rfl
  generalize parseFile bytesSrc inflate m tiny = r at h
  match r, h with
  | .ok (s, []), _ => exact ⟨s, rfl⟩

theorem tiny_length : tiny.length = 144 := by
  simp only [tiny, List.length_append, List.length_replicate, List.length_cons, List.length_nil]

/-- each of the 144 proper prefixes of `tiny` is rejected -/
example (inflate : Inflate) (m : Profile) (k : Nat) (hk : k < 144) :
    parse inflate m (tiny.take k) = .err (.io .unexpectedEof) := by
  obtain ⟨s, hs⟩ := tiny_loads inflate m
  exact truncated_rejected inflate m tiny s [] hs k (by rw [tiny_length]; exact hk)

end Ase.Proofs.C13
