import Ase.Chunks
namespace Ase.Proofs.C03
open Ase

/-- C03, the decoder side: blend-mode ids decode to themselves (`parse_blend_mode` is the
    identity on 0..18 and rejects everything else), so the stored id is the mode number
    `Ase.Blend.blend` dispatches on.  Stated at the empty rest of the input, which the reader
    does not look at (`C15.blendMode_refused` is the refusing half at any rest). -/
theorem dispatch_table (id : UInt16) :
    (id.toNat ≤ 18 → parseBlendMode id [] = .ok (id.toNat, [])) ∧
    (18 < id.toNat → parseBlendMode id [] = .err .invalid) := by
  unfold parseBlendMode
  constructor
  · intro h
    rw [if_pos h]
    rfl
  · intro h
    rw [if_neg (Nat.not_le.mpr h)]
    rfl

end Ase.Proofs.C03
