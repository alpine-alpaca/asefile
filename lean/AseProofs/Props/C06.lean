import AseProofs.Lemmas.Paint
/-
  C06  Cel pixels decode correctly for RGBA, grayscale and indexed colour.

  Here: what needs no drawing lemma (pixel conversion, absent and linked cels).
-/
namespace Ase.Proofs.C06
open Ase Ase.Proofs

variable {F : Type} (ops : FOps F) (m : Profile)

/-- every pixel of the fresh canvas is fully transparent (`canvas_get` under the property's
    name) -/
theorem canvas_transparent (s : Sprite) (x y : Nat) (hx : x < s.width.toNat) (hy : y < s.height.toNat) :
    s.canvas.get x y = .ok RGBA.zero :=
  canvas_get s hx hy

/-- **C06** (absent cel): it renders as the canvas-sized fully transparent image -/
theorem absent_cel (s : Sprite) (f l : Nat) (h : s.cel f l = .ok none) :
    s.celImage ops m f l = .ok s.canvas := by
  simp only [Sprite.celImage, h]

/-- **C06** (linked cel): a cel that links to frame `g` renders exactly like the (raw) cel of the
    same layer in frame `g` -/
theorem linked_cel_eq_target (s : Sprite) (f g l : Nat) (c target : RawCel Pixels) (gf : UInt16)
    (hc : s.cel f l = .ok (some c)) (hlink : c.content = .linked gf) (hg : gf.toNat = g)
    (hlayer : c.data.layerIndex.toNat = l) (hl : l < s.numLayers)
    (ht : s.cel g l = .ok (some target)) (hraw : ∀ fr, target.content ≠ .linked fr) :
    s.celImage ops m f l = s.celImage ops m g l := by
  have hld : s.layers[l]? = some s.layers[l] := Array.getElem?_eq_getElem hl
  have h1 : s.celImage ops m f l = s.writeCelDirect ops m s.canvas target := by
    simp only [Sprite.celImage, hc, Sprite.writeCel, hlink, hlayer, hld, hg, ht]
  have h2 : s.celImage ops m g l = s.writeCelDirect ops m s.canvas target := by
    simp only [Sprite.celImage, ht, Sprite.writeCel]
  rw [h1, h2]

/-- **C06** (conversion): RGBA pixels are used verbatim -/
theorem rgba_verbatim (pal : Option Palette) (px : Array RGBA) :
    pixelsToRgba pal (.rgba px) = .ok px := rfl

/-- **C06** (conversion): grayscale `(v, a)` becomes `(v, v, v, a)` -/
theorem gray_conversion (pal : Option Palette) (px : Array (UInt8 × UInt8)) :
    pixelsToRgba pal (.gray px) = .ok (px.map (fun (v, a) => ⟨v, v, v, a⟩)) := rfl

def indexedPixel (p : Palette) (tci : UInt8) (bg : Bool) (i : UInt8) : Option RGBA :=
  (p.color i.toNat).map (fun e =>
    ⟨e.rgba.r, e.rgba.g, e.rgba.b, if tci == i && !bg then 0 else e.rgba.a⟩)

/-- one step of the conversion loop of `clone_as_image_rgba` -/
def convStep (p : Palette) (tci : UInt8) (bg : Bool) (acc : Res (Array RGBA)) (i : UInt8) :
    Res (Array RGBA) :=
  match acc with
  | .ok out =>
      match p.color i.toNat with
      | none => .panic .unwrapNone
      | some e =>
          .ok (out.push ⟨e.rgba.r, e.rgba.g, e.rgba.b, if tci == i && !bg then 0 else e.rgba.a⟩)
  | other => other

theorem indexed_fold (p : Palette) (tci : UInt8) (bg : Bool) :
    ∀ (l : List UInt8) (acc : Array RGBA),
      (∀ i ∈ l, (p.color i.toNat).isSome) →
      l.foldl (convStep p tci bg) (Res.ok acc)
        = Res.ok (acc ++ (l.filterMap (indexedPixel p tci bg)).toArray) := by
  intro l
  induction l with
  | nil =>
      intro acc _
      simp only [List.foldl_nil, List.filterMap_nil, Array.append_empty]
  | cons i t ih =>
      intro acc hall
      rw [List.forall_mem_cons] at hall
      obtain ⟨e, he⟩ := Option.isSome_iff_exists.mp hall.1
      simp only [List.foldl_cons, convStep, he]
      rw [ih _ hall.2]
      simp only [Bool.and_eq_true, beq_iff_eq, Bool.not_eq_eq_eq_not, Bool.not_true,
        List.push_append_toArray, indexedPixel, he, Option.map_some, Option.some.injEq,
        List.filterMap_cons_some]

/-- **C06** (conversion): indexed pixels become their palette colour, except that the
    transparent index is fully transparent on every layer not flagged background; the conversion
    cannot fail when every index is in the palette (which validation guarantees at load time) -/
theorem indexed_conversion (p : Palette) (tci : UInt8) (bg : Bool) (px : Array UInt8)
    (hall : ∀ i ∈ px.toList, (p.color i.toNat).isSome) :
    pixelsToRgba (some p) (.indexed tci bg px) =
      .ok ((px.toList.filterMap (indexedPixel p tci bg)).toArray) := by
  -- the body of the model's loop is `convStep`
  change px.foldl (convStep p tci bg) _ = _
  rw [← Array.foldl_toList, indexed_fold p tci bg px.toList _ hall]
  simp only [Array.mkEmpty_eq, List.append_toArray, List.nil_append]

/-- **C06** (conversion): a converted indexed pixel is its palette colour, with alpha 0 on the
    transparent index of a non-background layer and the palette entry's alpha otherwise -/
theorem indexedPixel_spec (p : Palette) (tci : UInt8) (bg : Bool) (i : UInt8) (e : PalEntry)
    (he : p.color i.toNat = some e) :
    indexedPixel p tci bg i = some
      ⟨e.rgba.r, e.rgba.g, e.rgba.b, if i = tci ∧ bg = false then 0 else e.rgba.a⟩ := by
  simp only [indexedPixel, he, Option.map_some, Bool.and_eq_true, beq_iff_eq, Bool.not_eq_true',
    eq_comm (a := tci)]

end Ase.Proofs.C06
