import AseProofs.Props.C01Whole
import AseProofs.Lemmas.ValidateTables
import AseProofs.Lemmas.RunCore
import AseProofs.Lemmas.RunCels
/-
  C01, the remaining corollaries of the whole-file theorem: what the loaded sprite reports as
  palette, external files, cels and tilesets, in terms of the items of the file; first over
  `semParse h frames = .ok s`, then (`loaded_*`) over `parse inflate m (encode p) = .ok s`.
-/
namespace Ase.Proofs.C01
open Ase Ase.Proofs Ase.Proofs.WholeFile Ase.Proofs.More

variable {h : Spec.SHeader} {frames : List (UInt16 × List Spec.SItem)} {s : Sprite}

/-- the palette is that of the LAST new-format palette item if there is one, otherwise that
    of the FIRST legacy palette item, otherwise there is none (a new-format palette wins whether
    it comes before or after the legacy ones) -/
theorem sprite_palette (hs : Spec.semParse h frames = .ok s) :
    s.palette =
      (((allItems frames).filterMap palItem?).getLast?).or
        ((allItems frames).filterMap oldPalItem?).head? := by
  obtain ⟨pi, hr, hv⟩ := semParse_ok hs
  rw [validate_palette hv, runFrames_palette frames hr, foldl_palStep]
  simp only [ParseInfo.new, Option.none_or]

theorem sprite_palette_cases (hs : Spec.semParse h frames = .ok s) :
    (∀ p, ((allItems frames).filterMap palItem?).getLast? = some p → s.palette = some p) ∧
    (((allItems frames).filterMap palItem?) = [] →
      ∀ p rest, (allItems frames).filterMap oldPalItem? = p :: rest → s.palette = some p) ∧
    (((allItems frames).filterMap palItem?) = [] → (allItems frames).filterMap oldPalItem? = [] →
      s.palette = none) := by
  have hp := sprite_palette hs
  refine ⟨?_, ?_, ?_⟩
  · intro p h1
    rw [hp, h1]
    rfl
  · intro h1 p rest h2
    rw [hp, h1, h2]
    rfl
  · intro h1 h2
    rw [hp, h1, h2]
    rfl

/-- external files: looking up an id finds the LAST entry with that id over all external-files
    items in file order, and nothing if there is none -/
theorem sprite_extFiles (hs : Spec.semParse h frames = .ok s) (id : Nat) :
    assocGet? id s.extFiles =
      ((extEntries (allItems frames)).filter (fun f => f.id.toNat == id)).getLast? := by
  obtain ⟨pi, hr, hv⟩ := semParse_ok hs
  rw [validate_extFiles hv, runFrames_extFiles frames hr, assocGet?_insertAll]
  exact Option.or_none.trans (getLast?_filter_kv (fun f : ExternalFile => f.id.toNat) _ id)

/-- what the sprite's cel `c'` under layer `l` has in common with the cel item `c` it came from:
    layer index, position and opacity; kind, size, link target and tile ids of the content; the
    pixels of a raw cel are the validated pixels of the item (validated against the sprite's
    palette and pixel format, with the background flag of layer `l`) -/
def CelLoaded (s : Sprite) (l : Nat) (c : RawCel RawPixels) (c' : RawCel Pixels) : Prop :=
  c'.data = c.data ∧ celShape c'.content = celShape c.content ∧
  ∀ px, celPixels? c.content = some px → ∃ ld px', s.layers[l]? = some ld ∧
    validatePixels s.palette s.format ld.isBackground px = .ok px' ∧
    celPixels? c'.content = some px'

theorem content_ext {P} {a b : CelContent P} (hs : celShape a = celShape b)
    (hp : ∀ px, celPixels? b = some px → celPixels? a = some px) : a = b := by
  cases b with
  | raw w h px =>
      cases a <;> cases hs
      cases hp px rfl
      rfl
  | linked f =>
      cases a <;> cases hs
      rfl
  | tilemap t =>
      cases a <;> cases hs
      rfl

theorem stripC_eq {c0 c : RawCel RawPixels} (hc : stripC c0 = stripC c) :
    c0.data = c.data ∧ c0.content = c.content := by
  obtain ⟨d0, ct0, u0⟩ := c0
  obtain ⟨d, ct, u⟩ := c
  simp only [stripC, RawCel.mk.injEq] at hc
  exact ⟨hc.1, hc.2.1⟩

/-- cels: for every frame index `f` and layer `l`, the sprite has a cel under `(f, l)` exactly
    when frame `f` has a cel item with layer index `l`, and it is the validated form of that
    item -/
theorem sprite_cels (hs : Spec.semParse h frames = .ok s) (f l : Nat) :
    match findCel (itemsAt frames f) l with
    | none => (s.cels[f]?).bind (FrameCels.get? l) = none
    | some c => ∃ c', (s.cels[f]?).bind (FrameCels.get? l) = some c' ∧ CelLoaded s l c c' := by
  obtain ⟨pi, hr, hv⟩ := semParse_ok hs
  -- `s` becomes the record `validate` builds: its layers, palette and format are the state's
  obtain ⟨_, _, _, _, _, _, _, rfl⟩ := validate_eq_ok hv
  have hcv := (runFrames_cels frames hr).1 f l
  rw [cv_new, Option.or_none, if_pos (Nat.zero_le f), Nat.sub_zero] at hcv
  rcases validate_cel hv f l with ⟨h1, h2⟩ | ⟨c0, c', h1, h2, _, hval⟩
  · have hfc : findCel (itemsAt frames f) l = none := by
      simpa only [cv, celAt, h1, Option.map_none, Option.map_eq_none_iff] using hcv.symm
    rw [hfc]
    exact h2
  · obtain ⟨c, hfc, hc⟩ : ∃ c, findCel (itemsAt frames f) l = some c ∧ stripC c = stripC c0 := by
      simpa only [cv, celAt, h1, Option.map_some, Option.map_eq_some_iff] using hcv.symm
    rw [hfc]
    obtain ⟨hd, hct⟩ := stripC_eq hc.symm
    obtain ⟨k1, _, k3, k4⟩ := validateCel_keeps hval
    refine ⟨c', h2, by rw [k1, hd], by rw [k3, hct], fun px hpx => ?_⟩
    obtain ⟨ld, px', g1, g2, g3⟩ := k4 px (hct ▸ hpx)
    exact ⟨ld, px', g1, g2, g3⟩

/-- "the cel item of frame `f` with layer index `l`" is well defined: a frame of a file that
    loads has at most one cel item per layer -/
theorem sprite_cels_unique (hs : Spec.semParse h frames = .ok s) (f : Nat) :
    (celLayers (itemsAt frames f)).Nodup := by
  obtain ⟨pi, hr, _⟩ := semParse_ok hs
  exact (runFrames_cels frames hr).2 f

theorem findCel_eq_some_iff {its : List Spec.SItem} (hnd : (celLayers its).Nodup) (l : Nat)
    (c : RawCel RawPixels) :
    findCel its l = some c ↔ c ∈ celItems its ∧ c.data.layerIndex.toNat = l := by
  constructor
  · intro hf
    exact ⟨List.mem_of_find?_eq_some hf, by simpa only [beq_iff_eq] using List.find?_some hf⟩
  · rintro ⟨hm, rfl⟩
    exact find?_key_of_mem (·.data.layerIndex.toNat) (by rwa [celLayers] at hnd) hm

/-- rows are sorted by layer: the keys of every row of the cel table strictly increase (so
    iteration over a frame's cels is in layer order), and there is one row per frame of the
    header -/
theorem sprite_cels_sorted (hs : Spec.semParse h frames = .ok s) :
    s.cels.size = h.numFrames.toNat ∧
    ∀ (f : Nat) (row : FrameCels Pixels), s.cels[f]? = some row →
      (row.map (·.1)).Pairwise (· < ·) := by
  obtain ⟨pi, hr, hv⟩ := semParse_ok hs
  refine ⟨?_, ?_⟩
  · rw [validate_cels_size hv, runFrames_cels_size frames hr]
    exact Array.size_replicate
  · intro f row hrow
    have hk := validate_row_keys hv f
    rw [hrow] at hk
    obtain ⟨prow, hpr, (hk : prow.map (·.1) = row.map (·.1))⟩ :=
      Option.map_eq_some_iff.mp hk.symm
    rw [← hk]
    exact List.pairwise_map.mpr
      (runFrames_rowsSorted frames hr (new_rowsSorted _ _) prow (Array.mem_of_getElem? hpr))

def lastTileset (frames : List (UInt16 × List Spec.SItem)) (id : Nat) :
    Option (Tileset RawPixels) :=
  ((tilesetItems (allItems frames)).filter (fun t => t.id.toNat == id)).getLast?

/-- tilesets: looking up an id finds the validated form of the LAST tileset item with that id
    (header fields unchanged, pixels validated against the sprite's palette and format), and
    nothing if there is no such item -/
theorem sprite_tilesets (hs : Spec.semParse h frames = .ok s) (id : Nat) :
    match lastTileset frames id with
    | none => assocGet? id s.tilesets = none
    | some t =>
        ∃ t', assocGet? id s.tilesets = some t' ∧ C05.TilesetRel s.palette s.format t t' := by
  obtain ⟨pi, hr, hv⟩ := semParse_ok hs
  -- `s` becomes the record `validate` builds: its palette and format are the state's
  obtain ⟨_, _, _, _, _, _, _, rfl⟩ := validate_eq_ok hv
  have hpi : assocGet? id pi.tilesets = lastTileset frames id := by
    rw [runFrames_tilesets frames hr, assocGet?_insertAll]
    exact Option.or_none.trans (getLast?_filter_kv (fun t : Tileset RawPixels => t.id.toNat) _ id)
  rcases validate_tileset hv id with ⟨h1, h2⟩ | ⟨t, t', h1, h2, hrel⟩
  · rw [← hpi, h1]
    exact h2
  · rw [← hpi, h1]
    exact ⟨t', h2, hrel⟩

/-- **C01, tables**: the palette of a loaded file: `sprite_palette` for an encoded program -/
theorem loaded_palette (inflate : Inflate) (m : Profile) (p : Spec.Program)
    (hwf : ProgramWF inflate p) (s : Sprite) (hs : parse inflate m (Spec.encode p) = .ok s) :
    s.palette =
      (((allItems (Spec.framesSem m p)).filterMap palItem?).getLast?).or
        ((allItems (Spec.framesSem m p)).filterMap oldPalItem?).head? := by
  rw [decode_encode inflate m p hwf] at hs
  exact sprite_palette hs

/-- **C01, tables**: the external files of a loaded file: `sprite_extFiles` for an encoded program
    -/
theorem loaded_extFiles (inflate : Inflate) (m : Profile) (p : Spec.Program)
    (hwf : ProgramWF inflate p) (s : Sprite) (hs : parse inflate m (Spec.encode p) = .ok s)
    (id : Nat) :
    assocGet? id s.extFiles =
      ((extEntries (allItems (Spec.framesSem m p))).filter
        (fun f => f.id.toNat == id)).getLast? := by
  rw [decode_encode inflate m p hwf] at hs
  exact sprite_extFiles hs id

/-- **C01, tables**: the cels of a loaded file: `sprite_cels` for an encoded program -/
theorem loaded_cels (inflate : Inflate) (m : Profile) (p : Spec.Program)
    (hwf : ProgramWF inflate p) (s : Sprite) (hs : parse inflate m (Spec.encode p) = .ok s)
    (f l : Nat) :
    match findCel (itemsAt (Spec.framesSem m p) f) l with
    | none => (s.cels[f]?).bind (FrameCels.get? l) = none
    | some c => ∃ c', (s.cels[f]?).bind (FrameCels.get? l) = some c' ∧ CelLoaded s l c c' := by
  rw [decode_encode inflate m p hwf] at hs
  exact sprite_cels hs f l

/-- **C01, tables**: the tilesets of a loaded file: `sprite_tilesets` for an encoded program -/
theorem loaded_tilesets (inflate : Inflate) (m : Profile) (p : Spec.Program)
    (hwf : ProgramWF inflate p) (s : Sprite) (hs : parse inflate m (Spec.encode p) = .ok s)
    (id : Nat) :
    match lastTileset (Spec.framesSem m p) id with
    | none => assocGet? id s.tilesets = none
    | some t =>
        ∃ t', assocGet? id s.tilesets = some t' ∧ C05.TilesetRel s.palette s.format t t' := by
  rw [decode_encode inflate m p hwf] at hs
  exact sprite_tilesets hs id

/-! ### non-vacuity: the theorems applied to `tinyProgram` (which loads, `tinyProgram_loads`) -/

example (inflate : Inflate) (m : Profile) (s : Sprite)
    (hs : parse inflate m (Spec.encode tinyProgram) = .ok s) :
    ∃ c', (s.cels[0]?).bind (FrameCels.get? 0) = some c' ∧ c'.data = ⟨0, 0, 0, 255⟩ ∧
      celShape c'.content = .raw 1 1 := by
  obtain ⟨c', h1, h2, h3, _⟩ := loaded_cels inflate m tinyProgram (tinyProgram_wf inflate) s hs 0 0
  exact ⟨c', h1, h2, h3⟩

example (inflate : Inflate) (m : Profile) (s : Sprite)
    (hs : parse inflate m (Spec.encode tinyProgram) = .ok s) : s.palette = none := by
  rw [loaded_palette inflate m tinyProgram (tinyProgram_wf inflate) s hs]
  rfl

end Ase.Proofs.C01
