import AseProofs.Props.C12
import AseProofs.Lemmas.FootprintMachine
import AseProofs.Lemmas.ValidParse
import AseProofs.Props.C09
import AseProofs.Props.C11
/-
  C12, second half: the allocation account speaks about the DATA.  The heap footprint
  (`Ase/Footprint.lean`) of the loaded sprite, of the parser state after every prefix of the
  frames (whether or not loading fails later) and of the parser state in the middle of a frame
  never exceeds `Alloc.reserved`.  The only hypothesis is the deflate expansion limit on the
  `inflate` parameter.
-/
namespace Ase.Proofs.C12
open Ase Ase.Footprint Ase.Proofs.C05

theorem validatePixels_payload {pal : Option Palette} {fmt : PixelFormat} {bg : Bool}
    {raw : RawPixels} {px : Pixels} (h : validatePixels pal fmt bg raw = .ok px) :
    pxPayload px = rawPayload raw := by
  cases raw with
  | rgba a => cases h; rfl
  | gray a => cases h; rfl
  | indexed a =>
      obtain ⟨p, tci, _, _, rfl, _⟩ := C11.indexed_complete pal fmt bg a px h
      rfl

theorem validateCel_size {layers : Array LayerData} {tilesets : List (Nat × Tileset Pixels)}
    {pal : Option Palette} {fmt : PixelFormat} {numFrames : Nat}
    {cels : Array (FrameCels RawPixels)} {k : Nat} {c : RawCel RawPixels} {c' : RawCel Pixels}
    (h : validateCel layers tilesets pal fmt numFrames cels k c = .ok c') :
    celSize pxPayload c' = celSize rawPayload c := by
  obtain ⟨_, _, hc⟩ := (validateCel_spec _ _).of_ok h
  cases hc with
  | raw hpx => simp only [celSize, contentSize, validatePixels_payload hpx]
  | linked => rfl
  | tilemap => rfl

theorem tilesetRel_size {pal : Option Palette} {fmt : PixelFormat} {t : Tileset RawPixels}
    {t' : Tileset Pixels} (h : TilesetRel pal fmt t t') :
    tilesetSize pxPayload t' = tilesetSize rawPayload t := by
  obtain ⟨raw, px, hraw, hpx, rfl⟩ := h
  simp only [tilesetSize, hraw, optPay, validatePixels_payload hpx]

theorem rowRel_size {layers : Array LayerData} {tilesets : List (Nat × Tileset Pixels)}
    {pal : Option Palette} {fmt : PixelFormat} {numFrames : Nat}
    {cels : Array (FrameCels RawPixels)} {row : FrameCels RawPixels} {row' : FrameCels Pixels}
    (h : RowRel layers tilesets pal fmt numFrames cels row row') :
    rowSize pxPayload row' ≤ rowSize rawPayload row :=
  Nat.add_le_add_left
    (sumBy_le_of_all2 _ _ (fun _ _ hr => Nat.le_of_eq (validateCel_size hr.2.2)) h) 24

/-- validation does not increase the footprint: the one table it adds (`parents`, one entry per
    layer) is what `footprintParseV` has set aside -/
theorem validate_footprint (h : Header) (fmt : PixelFormat) (pi : ParseInfo) (s : Sprite)
    (hv : validate h fmt pi = .ok s) : footprintSprite s ≤ footprintParseV pi := by
  obtain ⟨parents, tilesets, rows, hpar, hts, _, hrows, rfl⟩ := validate_eq_ok hv
  have hrel := validateRows_rel hrows
  have hp1 := (C09.parents_lt pi.layers parents hpar).1
  have hsets : sumBy (fun p => tilesetSize pxPayload p.2) tilesets
      ≤ sumBy (fun p => tilesetSize rawPayload p.2) pi.tilesets :=
    sumBy_le_of_all2 _ _ (fun _ _ hr => Nat.le_of_eq (tilesetRel_size hr.2))
      ((rsat_validateTilesets _ _ _).of_ok hts)
  have hcels : sumBy (rowSize pxPayload) rows ≤ sumBy (rowSize rawPayload) pi.cels.toList :=
    sumBy_le_of_all2 _ _ (fun _ _ hr => rowRel_size hr) hrel
  have htags : sumBy tagSize (pi.tags.getD #[]).toList = optTagsSize pi.tags := by
    cases pi.tags <;> rfl
  simp only [footprintSprite, footprintParseV, footprintParse, celsSize, hp1, htags]
  omega

/-- per frame an empty row (24) and a frame time (2) -/
theorem footprintParseV_new (n : Nat) (t : UInt16) :
    footprintParseV (ParseInfo.new n t) = 26 * n := by
  have h24 : rowSize rawPayload ([] : FrameCels RawPixels) = 24 := rfl
  simp only [footprintParseV, footprintParse, ParseInfo.new, celsSize, Array.toList_replicate,
    sumBy_replicate, h24, Array.size_replicate, optPaletteSize, optTagsSize, udSize, parentsSize,
    sumBy_nil, List.size_toArray, List.length_nil]
  omega

/-- the invariant of loading: after `k` frames the parser state, the account of the `n` frames
    still to come and the transient reservation fit into what the account has reserved -/
theorem footprintParseV_le_reserved {inflate : Inflate} (hexp : Alloc.ExpansionBounded inflate)
    {m : Profile} {fmt : PixelFormat} {bs : Bytes} {hd : Header} {r1 : Bytes}
    (hh : readHeader bytesSrc bs = .ok (hd, r1)) {k n : Nat} (hk : k + n = hd.numFrames.toNat)
    {pi : ParseInfo} {rest : Bytes}
    (hp : parseFrames bytesSrc inflate m fmt k 0
      (ParseInfo.new hd.numFrames.toNat hd.defaultTime) r1 = .ok (pi, rest)) :
    footprintParseV pi + Alloc.framesCost n rest + Alloc.transientCost ≤ Alloc.reserved bs := by
  have h1 := parseFrames_footprint_cont inflate hexp m fmt k 0 _ pi r1 rest hp n
  rw [footprintParseV_new, hk] at h1
  unfold Alloc.reserved
  simp only [hh, Alloc.fixedCost]
  omega

/-- **C12** for the parser state: after any prefix of the frames, whether or not loading fails
    later, it holds at most what the account has reserved -/
theorem footprintParse_le_reserved (inflate : Inflate) (hexp : Alloc.ExpansionBounded inflate)
    (m : Profile) (fmt : PixelFormat) (bs : Bytes) (hd : Header) (r1 : Bytes)
    (hh : readHeader bytesSrc bs = .ok (hd, r1)) (k : Nat) (hk : k ≤ hd.numFrames.toNat)
    (pi : ParseInfo) (rest : Bytes)
    (hp : parseFrames bytesSrc inflate m fmt k 0
      (ParseInfo.new hd.numFrames.toNat hd.defaultTime) r1 = .ok (pi, rest)) :
    footprintParse pi ≤ Alloc.reserved bs := by
  have := footprintParseV_le_reserved hexp hh (Nat.add_sub_cancel' hk) hp
  simp only [footprintParseV] at this
  omega

theorem footprintParse_bound (inflate : Inflate) (hexp : Alloc.ExpansionBounded inflate)
    (m : Profile) (fmt : PixelFormat) (bs : Bytes) (hd : Header) (r1 : Bytes)
    (hh : readHeader bytesSrc bs = .ok (hd, r1)) (k : Nat) (hk : k ≤ hd.numFrames.toNat)
    (pi : ParseInfo) (rest : Bytes)
    (hp : parseFrames bytesSrc inflate m fmt k 0
      (ParseInfo.new hd.numFrames.toNat hd.defaultTime) r1 = .ok (pi, rest)) :
    footprintParse pi ≤ Alloc.bound bs.length :=
  Nat.le_trans (footprintParse_le_reserved inflate hexp m fmt bs hd r1 hh k hk pi rest hp)
    (alloc_bound bs)

/-- the parser state fits the account also **in the middle of a frame**: `k` frames are done,
    frame `k` has been framed (`readChunks` delivered `cs1 ++ cs2`) and the chunks `cs1` have
    been processed -/
theorem footprintParse_midframe_le_reserved (inflate : Inflate)
    (hexp : Alloc.ExpansionBounded inflate) (m : Profile) (fmt : PixelFormat) (bs : Bytes)
    (hd : Header) (r1 : Bytes) (hh : readHeader bytesSrc bs = .ok (hd, r1)) (k : Nat)
    (hk : k < hd.numFrames.toNat) (pi : ParseInfo) (r2 : Bytes)
    (hp : parseFrames bytesSrc inflate m fmt k 0
      (ParseInfo.new hd.numFrames.toNat hd.defaultTime) r1 = .ok (pi, r2))
    (fh : FrameHeader) (r3 r4 : Bytes) (cs1 cs2 : List Chunk)
    (hfh : readFrameHeader bytesSrc r2 = .ok (fh, r3))
    (hcs : readChunks bytesSrc fh.numChunks ((fh.numBytes.toNat : Int) - 16) r3
      = .ok (cs1 ++ cs2, r4))
    (pi' : ParseInfo)
    (hpc : processChunks inflate m fmt k
      { pi with frameTimes := pi.frameTimes.set! k fh.duration } cs1 = .ok pi') :
    footprintParse pi' ≤ Alloc.reserved bs := by
  obtain ⟨j, hj⟩ : ∃ j, hd.numFrames.toNat = k + (j + 1) :=
    ⟨hd.numFrames.toNat - k - 1, by omega⟩
  have h1 := footprintParseV_le_reserved hexp hh hj.symm hp
  have h2 := framesCost_succ_of_ok hfh hcs j
  rw [List.map_append, List.sum_append] at h2
  have h3 := processChunks_footprint inflate hexp m fmt k cs1 _ pi' hpc
  rw [footprintParseV_setFrameTime] at h3
  simp only [footprintParseV] at h1 h3
  omega

/-- **C12, the account bounds the data**: everything the loaded sprite holds (layers, cels with
    their pixel and tile buffers, tags, slices, palette, external files, tilesets, user data, the
    per-frame tables, the `parents` table) fits into what the account has reserved for the bytes
    of the file; the transient reservation is not even needed. -/
theorem footprint_le_reserved (inflate : Inflate) (hexp : Alloc.ExpansionBounded inflate)
    (m : Profile) (bs : Bytes) (s : Sprite) (rest : Bytes)
    (h : parseFile bytesSrc inflate m bs = .ok (s, rest)) :
    footprintSprite s ≤ Alloc.reserved bs := by
  obtain ⟨hd, r1, fmt, pi, h1, _, _, h2, h3⟩ := parseFile_eq_ok h
  have h4 := validate_footprint hd fmt pi s h3
  have h5 := footprintParseV_le_reserved hexp h1 (Nat.add_zero _) h2
  omega

/-- **C12 for the data**: the heap footprint of a loaded sprite is at most 64 MiB + 8192 bytes
    per byte of the file -/
theorem footprint_bound (inflate : Inflate) (hexp : Alloc.ExpansionBounded inflate)
    (m : Profile) (bs : Bytes) (s : Sprite) (rest : Bytes)
    (h : parseFile bytesSrc inflate m bs = .ok (s, rest)) :
    footprintSprite s ≤ Alloc.bound bs.length :=
  Nat.le_trans (footprint_le_reserved inflate hexp m bs s rest h) (alloc_bound bs)

/-- `footprint_le_reserved` and `footprint_bound` for `parse` (`AsepriteFile::read`) -/
theorem parse_footprint_bound (inflate : Inflate) (hexp : Alloc.ExpansionBounded inflate)
    (m : Profile) (bs : Bytes) (s : Sprite) (h : parse inflate m bs = .ok s) :
    footprintSprite s ≤ Alloc.reserved bs ∧ footprintSprite s ≤ Alloc.bound bs.length := by
  obtain ⟨rest, hp⟩ := parse_eq_ok h
  exact ⟨footprint_le_reserved inflate hexp m bs s rest hp,
    footprint_bound inflate hexp m bs s rest hp⟩

section examples

/-- one RGBA frame with four chunks: a layer named "A", a compressed 1×1 cel, a user data chunk
    with the text "hi" (attached to the cel), a tags chunk with one tag named "T" -/
def demoFile : Bytes :=
  ([0,0,0,0, 0xE0,0xA5, 1,0, 1,0, 1,0, 32,0, 0,0,0,0, 100,0, 0,0,0,0, 0,0,0,0, 0, 0,0,0, 0,0,
    1, 1, 0,0, 0,0, 0,0, 0,0] ++ List.replicate 84 0)
  ++ [121,0,0,0, 0xFA,0xF1, 4,0, 100,0, 0,0, 0,0,0,0]
  ++ [25,0,0,0, 0x04,0x20, 1,0, 0,0, 0,0, 0,0, 0,0, 0,0, 255, 0, 0,0, 1,0, 65]
  ++ [30,0,0,0, 0x05,0x20, 0,0, 0,0, 0,0, 255, 2,0, 0,0,0,0,0,0,0, 1,0, 1,0, 10,20,30,255]
  ++ [14,0,0,0, 0x20,0x20, 1,0,0,0, 2,0, 104,105]
  ++ [36,0,0,0, 0x18,0x20, 1,0, 0,0,0,0,0,0,0,0, 0,0, 0,0, 0, 0,0, 0,0,0,0,0,0, 0,0,0,0, 1,0, 84]

/-- stand-in inflater for the example: the data is stored -/
def storedInflate : Inflate := fun z => .ok z

theorem storedInflate_bounded : Alloc.ExpansionBounded storedInflate := by
  intro z out h
  simp only [storedInflate, Res.ok.injEq] at h
  subst h
  omega

-- the limit says nothing about an inflater that never succeeds
example : Alloc.ExpansionBounded (fun _ => .err .invalid) := by
  intro z out h
  cases h

/-- a `Bool`, so that the kernel evaluates the load once (`demo_footprint`); the example below
    reads the facts off it -/
def demoCheck : Res (Sprite × Bytes) → Bool
  | .ok (s, rest) =>
      -- layer 72+1, parents 8, cel row 24 + cel 96 + 4 pixel bytes + user data 32+2,
      -- frame time 2, tag 64+1
      footprintSprite s == 306 && rest.length == 0 && s.layers.size == 1 && s.tags.size == 1
  | _ => false

theorem demo_footprint :
    demoCheck (parseFile bytesSrc storedInflate Profile.checked demoFile) = true := by
  decide +kernel

/-- non-vacuity of `footprint_le_reserved` and `footprint_bound`: the demo file loads -/
example : ∃ s rest, parseFile bytesSrc storedInflate Profile.checked demoFile = .ok (s, rest) ∧
    footprintSprite s = 306 ∧ footprintSprite s ≤ Alloc.reserved demoFile ∧
    footprintSprite s ≤ Alloc.bound demoFile.length := by
  have h := demo_footprint
  generalize hp : parseFile bytesSrc storedInflate Profile.checked demoFile = r at h
  match r, h with
  | .ok (s, rest), h =>
      simp only [demoCheck, Bool.and_eq_true, beq_iff_eq] at h
      exact ⟨s, rest, rfl, h.1.1.1,
        footprint_le_reserved _ storedInflate_bounded _ _ s rest hp,
        footprint_bound _ storedInflate_bounded _ _ s rest hp⟩

-- for scale: the 306 bytes of the demo file against its account and the bound
example : Alloc.reserved demoFile = 9693179 ∧ Alloc.bound demoFile.length = 69148672 := by
  decide +kernel

end examples

end Ase.Proofs.C12
