import AseProofs.Lemmas.RoundTrip
import AseProofs.Props.C16
/-
  C13 (boundary): a frame without chunks.  `readChunks` with count 0 reads nothing and never
  looks at the byte budget, so the frame's size field (the first four bytes of the frame header)
  has no influence on the result of `parseFrame` — it may be smaller than 16, zero, or huge.
-/
namespace Ase.Proofs.C13
open Ase

/-- **C13 (empty frame)**: with count 0 `readChunks` reads nothing, whatever the byte budget,
    negative ones included -/
theorem readChunks_zero {σ : Type} (S : Src σ) (budget : Int) :
    readChunks S 0 budget = pure [] := rfl

/-- the 12 bytes of a frame header after the size field: magic, old count 0, duration,
    two reserved bytes, new count 0 -/
def emptyFrameTail (d0 d1 p0 p1 : UInt8) : Bytes :=
  [0xFA, 0xF1, 0, 0, d0, d1, p0, p1, 0, 0, 0, 0]

def afterEmptyFrame (pi : ParseInfo) (frame : Nat) (d0 d1 : UInt8) : ParseInfo :=
  { pi with frameTimes := pi.frameTimes.set! frame (le16 d0 d1) }

/-- What the empty-frame theorems rest on: over any source, if the six reads of the frame
    header succeed through the states `s0 … s6` with these contents (any size bytes `sz`, both
    chunk counts 0), the frame is read, and `sz` does not occur in the result. -/
theorem parseFrame_empty {σ : Type} (S : Src σ) (inflate : Inflate) (m : Profile)
    (fmt : PixelFormat) (frame : Nat) (pi : ParseInfo) (sz : Bytes) (d0 d1 p0 p1 : UInt8)
    (s0 s1 s2 s3 s4 s5 s6 : σ)
    (h1 : S.read 4 s0 = .ok (sz, s1)) (h2 : S.read 2 s1 = .ok ([0xFA, 0xF1], s2))
    (h3 : S.read 2 s2 = .ok ([0, 0], s3)) (h4 : S.read 2 s3 = .ok ([d0, d1], s4))
    (h5 : S.read 2 s4 = .ok ([p0, p1], s5)) (h6 : S.read 4 s5 = .ok ([0, 0, 0, 0], s6)) :
    parseFrame S inflate m fmt frame pi s0 = .ok (afterEmptyFrame pi frame d0 d1, s6) := by
  have hm : (le16 0xFA 0xF1).toNat = 0xF1FA := by decide
  have ho : (le16 0 0).toNat = 0 := by decide
  have hn : (le32 0 0 0 0).toNat = 0 := by decide
  unfold parseFrame readFrameHeader
  rw [rd_bind_assoc, RdS.bind_ok (readU32_of_read S h1), rd_bind_assoc,
    RdS.bind_ok (readU16_of_read S h2)]
  simp only [List.getD_cons_zero, List.getD_cons_succ, hm, bne_self_eq_false, Bool.false_eq_true,
    if_false]
  rw [rd_bind_assoc, RdS.bind_ok (readU16_of_read S h3), rd_bind_assoc,
    RdS.bind_ok (readU16_of_read S h4), rd_bind_assoc, RdS.bind_ok (readU16_of_read S h5),
    rd_bind_assoc, RdS.bind_ok (readU32_of_read S h6)]
  simp only [rd_pure_bind, FrameHeader.numChunks, List.getD_cons_zero, List.getD_cons_succ, hn, ho,
    beq_self_eq_true, if_true, readChunks_zero]
  rfl

theorem parseFrame_empty_bytes {inflate : Inflate} {m : Profile} {fmt : PixelFormat}
    {frame : Nat} {pi : ParseInfo} {sz : Bytes} (hsz : sz.length = 4) (d0 d1 p0 p1 : UInt8)
    (tl : Bytes) :
    parseFrame bytesSrc inflate m fmt frame pi (sz ++ emptyFrameTail d0 d1 p0 p1 ++ tl) =
      .ok (afterEmptyFrame pi frame d0 d1, tl) := by
  match sz, hsz with
  | [a, b, c, d], _ =>
    exact parseFrame_empty bytesSrc inflate m fmt frame pi [a, b, c, d] d0 d1 p0 p1
      _ _ _ _ _ _ _ rfl rfl rfl rfl rfl rfl

/-- the result of `parseFrame` (new state and remaining input) on a frame header with chunk
    counts old = 0, new = 0 does not depend on the four bytes of the size field -/
theorem empty_frame_size_bytes_irrelevant (inflate : Inflate) (m : Profile) (fmt : PixelFormat)
    (frame : Nat) (pi : ParseInfo) (sz1 sz2 : Bytes) (h1 : sz1.length = 4) (h2 : sz2.length = 4)
    (d0 d1 p0 p1 : UInt8) (tl : Bytes) :
    parseFrame bytesSrc inflate m fmt frame pi (sz1 ++ emptyFrameTail d0 d1 p0 p1 ++ tl) =
    parseFrame bytesSrc inflate m fmt frame pi (sz2 ++ emptyFrameTail d0 d1 p0 p1 ++ tl) := by
  rw [parseFrame_empty_bytes h1, parseFrame_empty_bytes h2]

/-- **C13 (empty frame)**: the size field of a frame without chunks may hold any number; the
    `u32le` instance of `empty_frame_size_bytes_irrelevant` -/
theorem empty_frame_size_field_irrelevant (inflate : Inflate) (m : Profile) (fmt : PixelFormat)
    (frame : Nat) (pi : ParseInfo) (n1 n2 : UInt32) (d0 d1 p0 p1 : UInt8) (tl : Bytes) :
    parseFrame bytesSrc inflate m fmt frame pi (u32le n1 ++ emptyFrameTail d0 d1 p0 p1 ++ tl) =
    parseFrame bytesSrc inflate m fmt frame pi (u32le n2 ++ emptyFrameTail d0 d1 p0 p1 ++ tl) :=
  empty_frame_size_bytes_irrelevant inflate m fmt frame pi _ _ rfl rfl d0 d1 p0 p1 tl

/-- **C13 (empty frame, any source)**: over an abstract source (a scheduled stream, for
    instance), two states whose size-field reads succeed and lead to the same state `s1` give the
    same result -/
theorem empty_frame_size_field_irrelevant_src {σ : Type} (S : Src σ) (inflate : Inflate)
    (m : Profile) (fmt : PixelFormat) (frame : Nat) (pi : ParseInfo) (sz sz' : Bytes)
    (d0 d1 p0 p1 : UInt8) (s0 s0' s1 s2 s3 s4 s5 s6 : σ)
    (h1 : S.read 4 s0 = .ok (sz, s1)) (h1' : S.read 4 s0' = .ok (sz', s1))
    (h2 : S.read 2 s1 = .ok ([0xFA, 0xF1], s2))
    (h3 : S.read 2 s2 = .ok ([0, 0], s3)) (h4 : S.read 2 s3 = .ok ([d0, d1], s4))
    (h5 : S.read 2 s4 = .ok ([p0, p1], s5)) (h6 : S.read 4 s5 = .ok ([0, 0, 0, 0], s6)) :
    parseFrame S inflate m fmt frame pi s0 = parseFrame S inflate m fmt frame pi s0' := by
  rw [parseFrame_empty S inflate m fmt frame pi sz d0 d1 p0 p1 s0 s1 s2 s3 s4 s5 s6
      h1 h2 h3 h4 h5 h6,
    parseFrame_empty S inflate m fmt frame pi sz' d0 d1 p0 p1 s0' s1 s2 s3 s4 s5 s6
      h1' h2 h3 h4 h5 h6]

/-- **C13 (empty frame)**: a frame without chunks is read the same in every build profile (and
    with every inflater and pixel format); the profile part is an instance of
    `C16.parseFrame_profile`, which holds for every frame -/
theorem empty_frame_profile_irrelevant (inflate inflate' : Inflate) (m m' : Profile)
    (fmt fmt' : PixelFormat) (frame : Nat) (pi : ParseInfo) (sz : Bytes) (hsz : sz.length = 4)
    (d0 d1 p0 p1 : UInt8) (tl : Bytes) :
    parseFrame bytesSrc inflate m fmt frame pi (sz ++ emptyFrameTail d0 d1 p0 p1 ++ tl) =
    parseFrame bytesSrc inflate' m' fmt' frame pi (sz ++ emptyFrameTail d0 d1 p0 p1 ++ tl) := by
  rw [parseFrame_empty_bytes hsz, parseFrame_empty_bytes hsz]

/-- Stands for C16, not C13: `C16.parseFrame_profile` at the checked (debug) and the release
    profile.  It sits here, beside `empty_frame_profile_irrelevant`, because it says for every
    frame what that one says of the profile for a frame without chunks. -/
theorem frame_checked_eq_release {σ : Type} (S : Src σ) (inflate : Inflate) (fmt : PixelFormat)
    (frame : Nat) (pi : ParseInfo) :
    parseFrame S inflate .checked fmt frame pi = parseFrame S inflate .release fmt frame pi :=
  C16.parseFrame_profile S inflate .checked .release fmt frame pi

/-- size fields 0 (smaller than the header itself) and 0xFFFFFFFF give the same result as 16 -/
example : parseFrame bytesSrc (fun _ => .err .invalid) .release .rgba 0 (ParseInfo.new 1 100)
      (u32le 0 ++ emptyFrameTail 7 0 0 0 ++ [1, 2, 3]) =
    parseFrame bytesSrc (fun _ => .err .invalid) .release .rgba 0 (ParseInfo.new 1 100)
      (u32le 16 ++ emptyFrameTail 7 0 0 0 ++ [1, 2, 3]) :=
  empty_frame_size_field_irrelevant _ _ _ _ _ 0 16 7 0 0 0 [1, 2, 3]

/-- the bytes of the frame of the next example, written out -/
example : u32le 0xFFFFFFFF ++ emptyFrameTail 7 0 0 0 ++ [1, 2, 3] =
    [255, 255, 255, 255, 0xFA, 0xF1, 0, 0, 7, 0, 0, 0, 0, 0, 0, 0, 1, 2, 3] := by decide

/-- the frame succeeds, records duration 7 and leaves the trailing bytes -/
example : ∃ pi', parseFrame bytesSrc (fun _ => .err .invalid) .release .rgba 0
      (ParseInfo.new 1 100) (u32le 0xFFFFFFFF ++ emptyFrameTail 7 0 0 0 ++ [1, 2, 3]) =
      .ok (pi', [1, 2, 3]) ∧ pi'.frameTimes = #[7] ∧ pi'.tags = none :=
  ⟨_, parseFrame_empty_bytes rfl 7 0 0 0 _, by decide, rfl⟩

example : readChunks bytesSrc 0 (-5) [9] = .ok ([], [9]) := by rw [readChunks_zero]; rfl

end Ase.Proofs.C13
