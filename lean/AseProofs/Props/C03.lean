import AseProofs.Lemmas.BlendInt
import Ase.Spec.BlendRef
/-
  C03  Blend modes reproduce Aseprite's blend arithmetic bit for bit: `Ase.Blend`, the model of
  `src/blend.rs`, against `Ase.Spec.BlendRef`, the transcription of Aseprite's C++.
-/
namespace Ase.Proofs.C03
-- the namespace `C17` opened here is that of `Lemmas/BlendInt.lean` (C17 itself imports this file)
open Ase Ase.Blend Ase.Proofs Ase.Proofs.C17
open Ase.Spec (BlendRef.geti BlendRef.u8 BlendRef.MUL_UN8 BlendRef.DIV_UN8 BlendRef.rgba)

/-- the laws of IEEE-754 arithmetic the equality needs (stated for non-NaN operands, which
    is all that can occur: every operand is a quotient of bytes by 255 or derived from such) -/
structure FLaws {F : Type} (ops : FOps F) : Prop where
  mul_comm : ∀ a b, ops.mul a b = ops.mul b a
  /-- `f64::max(a, b)` is C's `(a > b) ? a : b` -/
  max_def : ∀ a b, ops.max a b = if ops.lt b a then a else b
  /-- `f64::min(a, b)` is C's `(a < b) ? a : b` -/
  min_def : ∀ a b, ops.min a b = if ops.lt a b then a else b

@[simp] theorem geti_eq (x : UInt8) : BlendRef.geti x = ch x := rfl
@[simp] theorem u8_eq (x : Int) : BlendRef.u8 x = asU8 x := rfl
@[simp] theorem MUL_eq (a b : Int) : BlendRef.MUL_UN8 a b = mulUn8I a b := rfl

theorem blend8_eq (b s o : UInt8) :
    blend8 b s o = asU8 (ch b + mulUn8I (ch s - ch b) (ch o)) := rfl

theorem blend8_range (b s o : UInt8) :
    0 ≤ ch b + mulUn8I (ch s - ch b) (ch o) ∧ ch b + mulUn8I (ch s - ch b) (ch o) ≤ 255 := by
  have hb := ch_range b
  have hs := ch_range s
  rcases Int.le_total 0 (ch s - ch b) with hd | hd
  · have := mulUn8I_bounds_nonneg _ _ hd (ch_nonneg o) (ch_le o)
    omega
  · have := mulUn8I_bounds_neg _ _ hd (ch_nonneg o) (ch_le o)
    omega

/-- the two sides branch on the same conditions once the test `res_a == 0` on the byte is known
    to be the test `Ra == 0` on the `int` (`blend8_range`) -/
theorem merge_eq (x y : RGBA) (op : UInt8) :
    merge x y op = Spec.BlendRef.merge x y (ch op) := by
  have hr := blend8_range x.a y.a op
  have hz := ch_eq_zero_iff (asU8 (ch x.a + mulUn8I (ch y.a - ch x.a) (ch op)))
  rw [ch_asU8 _ hr.1 hr.2] at hz
  unfold merge Spec.BlendRef.merge
  simp only [geti_eq, MUL_eq, BlendRef.rgba, u8_eq, ← blend8_eq, beq_iff_eq, ch_eq_zero_iff, hz]
  split
  next h =>
    rw [h]
    rfl
  next =>
    split
    · simp only [asU8_ch]
    · split
      · simp only [asU8_ch]
      · rfl

theorem normal_eq (m : Profile) (b s : RGBA) (o : UInt8) :
    normal m b s o = .ok (Spec.BlendRef.normal b s (ch o)) := by
  -- `sa = mul_un8(src_a, opacity)` and the result alpha `ra` are bytes, `sa ≤ ra`, `ra ≠ 0`
  have hsa := mulUn8I_bounds_nonneg (ch s.a) (ch o) (ch_nonneg _) (ch_nonneg _) (ch_le _)
  have hsa255 := hsa.2.trans (ch_le s.a)
  unfold normal Spec.BlendRef.normal
  simp only [geti_eq, MUL_eq, BlendRef.rgba, u8_eq, ch_eq_zero_iff, beq_iff_eq, ch_mulUn8_ch,
    ch_mulUn8 (ch b.a) _ (ch_nonneg _) (ch_le _) hsa.1 hsa255]
  split
  next =>
    rw [← ch_mulUn8_ch, fromRgbaI32_bytes, asU8_ch]
  next hb =>
    split
    next =>
      rfl
    next =>
      have hba1 : 1 ≤ ch b.a := by
        have := ch_nonneg b.a
        have := mt (ch_eq_zero_iff _).mp hb
        omega
      have hr := normal_ra_range _ _ hsa.1 hsa255 hba1 (ch_le _)
      generalize mulUn8I (ch s.a) (ch o) = sa at *
      generalize sa + ch b.a - mulUn8I (ch b.a) sa = ra at *
      rw [if_neg (by omega)]
      have cr := fun x y : UInt8 => channel_range (ch x) (ch y) sa ra (ch_nonneg _) (ch_le _)
        (ch_nonneg _) (ch_le _) (by omega) hsa.1 hr.2.2
      exact fromRgbaI32_inRange m _ _ _ _ (cr _ _) (cr _ _) (cr _ _) ⟨by omega, hr.2.1⟩

theorem blender_unfold (m : Profile) (f : RGBA → RGBA → UInt8 → Res RGBA) (b s : RGBA)
    (o : UInt8) :
    blender m f b s o =
      if b.a = 0 then .ok (Spec.BlendRef.normal b s (ch o))
      else (f b s o).map fun bl =>
        merge (merge (Spec.BlendRef.normal b s (ch o)) bl b.a) bl
          (mulUn8 (ch b.a) (ch (mulUn8 (ch s.a) (ch o)))) := by
  unfold blender
  by_cases hb : b.a = 0
  · simp only [hb, bne_self_eq_false, Bool.false_eq_true, if_false, if_true, normal_eq]
  · have hb' : (b.a != 0) = true := bne_iff_ne.mpr hb
    simp only [hb', hb, if_true, if_false, normal_eq, Res.bind_ok]
    cases f b s o <;> rfl

theorem blender_eq (m : Profile) (f : RGBA → RGBA → UInt8 → Res RGBA)
    (g : RGBA → RGBA → Int → RGBA) (b s : RGBA) (o : UInt8) (hfg : f b s o = .ok (g b s (ch o))) :
    blender m f b s o = .ok (Spec.BlendRef.blenderN g b s (ch o)) := by
  rw [blender_unfold, hfg, Res.map_ok, merge_eq, merge_eq, ch_mulUn8_ch, ch_mulUn8_ch]
  unfold Spec.BlendRef.blenderN
  simp only [geti_eq, MUL_eq, ch_eq_zero_iff, ne_eq, ite_not]
  split <;> rfl

/-- a channel function of `src/blend.rs` returns, on bytes, the byte of the reference's `int` -/
def ChanEq (f : Int → Int → Res UInt8) (g : Int → Int → Int) : Prop :=
  ∀ b s : Int, 0 ≤ b → b ≤ 255 → 0 ≤ s → s ≤ 255 → f b s = .ok (asU8 (g b s))

theorem blendChannel_eq {m : Profile} {f : Int → Int → Res UInt8} {g : Int → Int → Int}
    {b s : RGBA} {o : UInt8} (hf : ChanEq f g) :
    blendChannel m f b s o = .ok (Spec.BlendRef.perChannel g b s (ch o)) := by
  unfold blendChannel Spec.BlendRef.perChannel
  simp only [hf _ _ (ch_nonneg _) (ch_le _) (ch_nonneg _) (ch_le _), Res.bind_ok, normal_eq,
    geti_eq, u8_eq]

theorem chMultiply_eq : ChanEq chMultiply Spec.BlendRef.blend_multiply := fun _ _ _ _ _ _ => rfl

theorem chScreen_eq : ChanEq chScreen Spec.BlendRef.blend_screen := by
  intro b s hb0 hb hs0 hs
  simp only [chScreen, Spec.BlendRef.blend_screen, MUL_eq, ch_mulUn8 b s hb0 hb hs0 hs]

theorem chHardLight_eq : ChanEq chHardLight Spec.BlendRef.blend_hard_light := by
  intro b s hb0 hb hs0 hs
  unfold chHardLight Spec.BlendRef.blend_hard_light
  split
  · rfl
  · exact chScreen_eq b (s * 2 - 255) hb0 hb (by omega) (by omega)

theorem chOverlay_eq : ChanEq chOverlay Spec.BlendRef.blend_overlay :=
  fun b s hb0 hb hs0 hs => chHardLight_eq s b hs0 hs hb0 hb

theorem chDarken_eq : ChanEq chDarken Spec.BlendRef.blend_darken := by
  intro b s _ _ _ _
  rw [chDarken, min_eq_ite_lt]
  rfl

theorem chLighten_eq : ChanEq chLighten Spec.BlendRef.blend_lighten := by
  intro b s _ _ _ _
  rw [chLighten, max_eq_ite_gt]
  rfl

theorem chDifference_eq : ChanEq chDifference Spec.BlendRef.blend_difference := by
  intro b s _ _ _ _
  unfold chDifference Spec.BlendRef.blend_difference
  congr 2
  split <;> omega

theorem chExclusion_eq : ChanEq chExclusion Spec.BlendRef.blend_exclusion := by
  intro b s hb0 hb hs0 hs
  simp only [chExclusion, Spec.BlendRef.blend_exclusion, MUL_eq, ch_mulUn8 b s hb0 hb hs0 hs]

theorem divUn8_eq (a b : Int) (hb : b ≠ 0) :
    divUn8 a b = .ok (asU8 (Spec.BlendRef.DIV_UN8 a b)) := by
  rw [divUn8, if_neg (mt beq_iff_eq.mp hb)]
  rfl

theorem chDivide_eq : ChanEq chDivide Spec.BlendRef.blend_divide := by
  intro b s hb0 _ _ _
  unfold chDivide Spec.BlendRef.blend_divide
  simp only [beq_iff_eq]
  split
  · rfl
  · split
    · rfl
    · exact divUn8_eq _ _ (by omega)

theorem chColorDodge_eq : ChanEq chColorDodge Spec.BlendRef.blend_color_dodge :=
  fun b s hb0 hb _ _ => chDivide_eq b (255 - s) hb0 hb (by omega) (by omega)

theorem chColorBurn_eq : ChanEq chColorBurn Spec.BlendRef.blend_color_burn := by
  intro b s _ hb _ _
  unfold chColorBurn Spec.BlendRef.blend_color_burn
  simp only [beq_iff_eq]
  split
  · rfl
  · split
    · rfl
    · -- `255 - div_un8(..)` subtracts the byte, the reference the `int`
      rw [divUn8_eq _ _ (by omega), Res.map_ok]
      exact congrArg _ (asU8_congr (by rw [ch_asU8_emod]; omega))

/-- the tail shared by the non-separable modes -/
theorem fromRgbaI32_normal_eq (m : Profile) (r g b : Int) (bk s : RGBA) (o : UInt8)
    (hr : 0 ≤ r ∧ r ≤ 255) (hg : 0 ≤ g ∧ g ≤ 255) (hb : 0 ≤ b ∧ b ≤ 255) :
    (fromRgbaI32 m r g b (ch s.a) >>= fun s' => normal m bk s' o) =
      .ok (Spec.BlendRef.normal bk ⟨asU8 r, asU8 g, asU8 b, s.a⟩ (ch o)) := by
  rw [fromRgbaI32_inRange m r g b _ hr hg hb (ch_range _), Res.bind_ok, normal_eq, asU8_ch]

theorem addition_eq {m : Profile} {b s : RGBA} {o : UInt8} :
    additionBase m b s o = .ok (Spec.BlendRef.addition b s (ch o)) := by
  have hr : ∀ x y : UInt8, 0 ≤ min (ch x + ch y) 255 ∧ min (ch x + ch y) 255 ≤ 255 := by
    intro x y
    have := ch_nonneg x
    have := ch_nonneg y
    omega
  unfold additionBase
  rw [fromRgbaI32_normal_eq m _ _ _ b s o (hr _ _) (hr _ _) (hr _ _)]
  simp only [min_eq_ite_lt]
  rfl

theorem subtract_eq {m : Profile} {b s : RGBA} {o : UInt8} :
    subtractBase m b s o = .ok (Spec.BlendRef.subtract b s (ch o)) := by
  have hr : ∀ x y : UInt8, 0 ≤ max (ch x - ch y) 0 ∧ max (ch x - ch y) 0 ≤ 255 := by
    intro x y
    have := ch_le x
    have := ch_nonneg y
    omega
  unfold subtractBase
  rw [fromRgbaI32_normal_eq m _ _ _ b s o (hr _ _) (hr _ _) (hr _ _)]
  simp only [max_eq_ite_gt]
  rfl

section float
variable {F : Type} (ops : FOps F)

theorem softLightCh_eq (b s : Int) : softLightCh ops b s = Spec.BlendRef.blend_soft_light ops b s := rfl

theorem softLight_eq {b s : RGBA} {o : UInt8} :
    softLightBase ops Profile.release b s o = .ok (Spec.BlendRef.softLight ops b s (ch o)) := by
  unfold softLightBase Spec.BlendRef.softLight
  simp only [fromRgbaI32_noAsserts (m := Profile.release) rfl, Res.bind_ok, normal_eq, geti_eq, u8_eq, asU8_ch, softLightCh_eq]

theorem luminosity_eq (r g b : F) : luminosity ops (r, g, b) = Spec.BlendRef.lum ops r g b := rfl

theorem getC_eq (c : F × F × F) (i : Nat) : getC c i = Spec.BlendRef.get3 c i := by
  unfold getC Spec.BlendRef.get3
  rfl

theorem setC_eq (c : F × F × F) (i : Nat) (v : F) : setC c i v = Spec.BlendRef.set3 c i v := by
  unfold setC Spec.BlendRef.set3
  rfl

/-- `set_saturation` writes 0 to MID and MAX in the order opposite to the reference, and the
    slots may coincide -/
theorem set3_comm_same (c : F × F × F) (i j : Nat) (v : F) :
    Spec.BlendRef.set3 (Spec.BlendRef.set3 c i v) j v =
      Spec.BlendRef.set3 (Spec.BlendRef.set3 c j v) i v := by
  unfold Spec.BlendRef.set3
  rcases i with _ | _ | i <;> rcases j with _ | _ | j <;> rfl

theorem asRgbF_eq (c : RGBA) :
    asRgbF ops c = (Spec.BlendRef.chanF ops c.r, Spec.BlendRef.chanF ops c.g, Spec.BlendRef.chanF ops c.b) := rfl

variable (L : FLaws ops)
include L

theorem max_eq_MAXd (a b : F) : ops.max a b = Spec.BlendRef.MAXd ops a b := L.max_def a b

theorem min_eq_MINd (a b : F) : ops.min a b = Spec.BlendRef.MINd ops a b := L.min_def a b

theorem saturation_eq (r g b : F) : saturation ops (r, g, b) = Spec.BlendRef.sat ops r g b := by
  simp only [saturation, Spec.BlendRef.sat, max_eq_MAXd ops L, min_eq_MINd ops L]

theorem clipColor_eq (r g b : F) :
    clipColor ops (r, g, b) = Spec.BlendRef.clip_color ops r g b := by
  unfold clipColor Spec.BlendRef.clip_color
  simp only [max_eq_MAXd ops L, min_eq_MINd ops L, luminosity_eq ops]

theorem staticSort_eq (r g b : F) :
    staticSort3Orig ops r g b =
      (Spec.BlendRef.minRef ops r g b, Spec.BlendRef.midRef ops r g b,
        Spec.BlendRef.maxRef ops r g b) := by
  simp only [staticSort3Orig, Spec.BlendRef.minRef, Spec.BlendRef.midRef, Spec.BlendRef.maxRef,
    max_eq_MAXd ops L, min_eq_MINd ops L]

theorem setSaturation_eq (r g b sat : F) :
    setSaturation ops (r, g, b) sat = Spec.BlendRef.set_sat ops r g b sat := by
  unfold setSaturation Spec.BlendRef.set_sat
  simp only [staticSort_eq ops L, getC_eq, setC_eq]
  split
  · rfl
  · rw [set3_comm_same _ (Spec.BlendRef.midRef ops r g b) (Spec.BlendRef.maxRef ops r g b)]

theorem fromRgbF_eq (c : F × F × F) (a : UInt8) :
    fromRgbF ops Profile.release c a = .ok (Spec.BlendRef.packF ops c a) := by
  simp only [fromRgbF, fromRgbaI32_noAsserts (m := Profile.release) rfl, Spec.BlendRef.packF, u8_eq, asU8_ch, L.mul_comm]

theorem setLuminosity_eq (c : F × F × F) (l : F) :
    setLuminosity ops c l = Spec.BlendRef.set_lum ops c.1 c.2.1 c.2.2 l := by
  obtain ⟨r, g, b⟩ := c
  simp only [setLuminosity, Spec.BlendRef.set_lum, luminosity_eq ops, clipColor_eq ops L]

theorem hsl_eq {b s : RGBA} {o : UInt8} :
    hueBase ops Profile.release b s o = .ok (Spec.BlendRef.hslHue ops b s (ch o)) ∧
    saturationBase ops Profile.release b s o = .ok (Spec.BlendRef.hslSaturation ops b s (ch o)) ∧
    colorBase ops Profile.release b s o = .ok (Spec.BlendRef.hslColor ops b s (ch o)) ∧
    luminosityBase ops Profile.release b s o =
      .ok (Spec.BlendRef.hslLuminosity ops b s (ch o)) := by
  refine ⟨?_, ?_, ?_, ?_⟩
  all_goals
    simp only [hueBase, saturationBase, colorBase, luminosityBase,
      Spec.BlendRef.hslHue, Spec.BlendRef.hslSaturation, Spec.BlendRef.hslColor,
      Spec.BlendRef.hslLuminosity, asRgbF_eq, saturation_eq ops L, luminosity_eq ops,
      setSaturation_eq ops L, setLuminosity_eq ops L, fromRgbF_eq ops L, Res.bind_ok, normal_eq]

end float

theorem baseline_eq_of {F : Type} (ops : FOps F) (m : Profile) (b s : RGBA) (o : UInt8) :
    ∀ mode : Nat, (mode = 9 ∨ (12 ≤ mode ∧ mode ≤ 15) → m = Profile.release ∧ FLaws ops) →
      baseline ops m mode b s o = .ok (Spec.BlendRef.base ops mode b s (ch o))
  | 1, _ => blendChannel_eq chMultiply_eq
  | 2, _ => blendChannel_eq chScreen_eq
  | 3, _ => blendChannel_eq chOverlay_eq
  | 4, _ => blendChannel_eq chDarken_eq
  | 5, _ => blendChannel_eq chLighten_eq
  | 6, _ => blendChannel_eq chColorDodge_eq
  | 7, _ => blendChannel_eq chColorBurn_eq
  | 8, _ => blendChannel_eq chHardLight_eq
  | 9, h => by obtain ⟨rfl, _⟩ := h (.inl rfl); exact softLight_eq ops
  | 10, _ => blendChannel_eq chDifference_eq
  | 11, _ => blendChannel_eq chExclusion_eq
  | 12, h => by obtain ⟨rfl, L⟩ := h (by decide); exact (hsl_eq ops L).1
  | 13, h => by obtain ⟨rfl, L⟩ := h (by decide); exact (hsl_eq ops L).2.1
  | 14, h => by obtain ⟨rfl, L⟩ := h (by decide); exact (hsl_eq ops L).2.2.1
  | 15, h => by obtain ⟨rfl, L⟩ := h (by decide); exact (hsl_eq ops L).2.2.2
  | 16, _ => addition_eq
  | 17, _ => subtract_eq
  | 0, _ | 18, _ | _ + 19, _ => blendChannel_eq chDivide_eq

theorem baseline_eq {F : Type} (ops : FOps F) (L : FLaws ops) (mode : Nat) (b s : RGBA)
    (o : UInt8) :
    baseline ops Profile.release mode b s o = .ok (Spec.BlendRef.base ops mode b s (ch o)) :=
  baseline_eq_of ops _ b s o mode fun _ => ⟨rfl, L⟩

/-- C03 in its general form: any mode id (ids above 18 behave as `divide` on both sides), the
    floating-point modes only in the optimised build and under `FLaws` -/
theorem blend_eq_ref_of {F : Type} (ops : FOps F) (m : Profile) (mode : Nat) (b s : RGBA)
    (o : UInt8) (h : mode = 9 ∨ (12 ≤ mode ∧ mode ≤ 15) → m = Profile.release ∧ FLaws ops) :
    blend ops m mode b s o = .ok (Spec.BlendRef.blend ops mode b s o) := by
  unfold blend Spec.BlendRef.blend
  by_cases hm : mode = 0
  · rw [if_pos (beq_iff_eq.mpr hm), if_pos hm]
    exact normal_eq _ b s o
  · rw [if_neg (mt beq_iff_eq.mp hm), if_neg hm]
    exact blender_eq _ _ _ b s o (baseline_eq_of ops m b s o mode h)

section float
variable {F : Type} (ops : FOps F) (L : FLaws ops)
include L

/-- **C03**: for every blend mode id 0..18 (the ids the decoder accepts), every backdrop, source
    and opacity, and every floating-point instance satisfying `FLaws`, the model of
    `src/blend.rs` (optimised build) returns exactly the pixel that the transcription of
    Aseprite's C++ blend functions returns — bit for bit, over the whole 2^72-point domain (2^80
    with the opacity product `mul_un8(layer_opacity, cel_opacity)` of the public API). -/
theorem blend_eq_ref (mode : Nat) (hm18 : mode ≤ 18) (b s : RGBA) (o : UInt8) :
    blend ops Profile.release mode b s o = .ok (Spec.BlendRef.blend ops mode b s o) := by
  -- the bound states the domain of the property; the equality holds for every `mode`
  have _ := hm18
  exact blend_eq_ref_of ops _ mode b s o fun _ => ⟨rfl, L⟩

end float

/-- **C03**, integer modes: for the 14 integer modes the equality holds in the checked build as
    well (no floating point, no law needed, no debug assertion fires). -/
theorem blend_eq_ref_int {F : Type} (ops : FOps F) (m : Profile) (mode : Nat)
    (hm : intMode mode = true) (b s : RGBA) (o : UInt8) :
    blend ops m mode b s o = .ok (Spec.BlendRef.blend ops mode b s o) :=
  blend_eq_ref_of ops m mode b s o fun hf => by
    simp only [intMode, Bool.not_or, Bool.not_and, Bool.and_eq_true, decide_eq_true_eq,
      Bool.not_eq_eq_eq_not, Bool.not_true, beq_eq_false_iff_ne, ne_eq, Bool.or_eq_true,
      decide_eq_false_iff_not, not_le] at hm
    omega

/-- non-vacuity of `FLaws`: an instance (integers standing in for floats) satisfies the laws -/
def intOps : FOps Int where
  add := (· + ·)
  sub := (· - ·)
  mul := (· * ·)
  div := Int.tdiv
  sqrt := id
  max := fun a b => if b < a then a else b
  min := fun a b => if a < b then a else b
  lt := fun a b => decide (a < b)
  le := fun a b => decide (a ≤ b)
  ofInt := id
  toI32 := id
  toU32 := Int.toNat
  c0_25 := 0
  c0_5 := 0
  c0_3 := 0
  c0_59 := 0
  c0_11 := 0

example : FLaws intOps where
  mul_comm := fun a b => Int.mul_comm a b
  max_def := fun a b => by simp only [intOps, decide_eq_true_eq]
  min_def := fun a b => by simp only [intOps, decide_eq_true_eq]

end Ase.Proofs.C03
