import AseProofs.Lemmas.NoPanicParse
import AseProofs.Lemmas.ValidParse
import AseProofs.Props.C09
/-
  C04  Loading is total.

  For every byte string (indeed for every non-panicking byte source), both build profiles
  and every non-panicking `inflate` parameter, the model of `AsepriteFile::read` returns a
  sprite or an error value; none of its modelled panic sites is reachable:

  * the `u32` additions of the old-palette packet loop (overflow checks): they stay below `2^32`
    (`C16.parseOldPackets_profile`);
  * `self.data[frame]` in `ParseInfo::add_user_data`: `CtxInv` is preserved by every step of
    the state machine (`rsat_stepSem`);
  * `compute_parents`: `C09.computeParents_noPanic`;
  * `layers[layer]` in `RawCel::validate`: guarded by the range check of `validateRow`;
  * `inflate`: hypothesis.
-/
namespace Ase.Proofs.C04
open Ase

/- here and not next to `rsat_validateRows`: it needs `C09.computeParents_noPanic`, and the
   lemma modules import no property module -/
theorem noPanic_validate (h : Header) (fmt : PixelFormat) (pi : ParseInfo) :
    Res.NoPanic (validate h fmt pi) := by
  unfold validate
  apply Res.NoPanic.bind (C09.computeParents_noPanic _)
  intro parents _
  apply Res.NoPanic.bind (C05.rsat_validateTilesets _ _ _).noPanic
  intro tilesets _
  split
  · exact Res.noPanic_err _
  · apply Res.NoPanic.bind (C05.rsat_validateRows _ _ _ _ _ _ _).noPanic
    intro rows _
    exact Res.noPanic_ok _

theorem NP_parseFile {σ : Type} {S : Src σ} (hS : SrcNP S) {inflate : Inflate}
    (hi : InflNP inflate) (m : Profile) : NP (parseFile S inflate m) := by
  unfold parseFile
  apply NP_bind (SrcSim.uniform_readHeader.np hS)
  intro h
  split
  · exact NP_fail _
  · apply NP_bind (NP_lift (noPanic_parsePixelFormat _ _))
    intro fmt
    -- the invariant is put in here: `CtxInv` is kept by every step and ignores the frame times
    apply NP_bind (sat_parseFrames rsat_stepSem (fun _ _ h => h) hS hi (ctxInv_new _ _)).np
    intro pi
    exact NP_lift (noPanic_validate _ _ _)

/-- **C04 (any source)**: over a source that never panics, with an inflater that never
    panics, `parseFile` never panics, in either build profile and from any source state. -/
theorem parseFile_noPanic {σ : Type} (S : Src σ) (inflate : Inflate) (m : Profile)
    (hS : ∀ n s p, S.read n s ≠ .panic p) (hinfl : ∀ z s, inflate z ≠ .panic s) :
    ∀ s p, parseFile S inflate m s ≠ .panic p :=
  (NP_parseFile (S := S) (fun n => ⟨hS n⟩) hinfl m).np

/-- `parseFile_noPanic` read as "a value or an error" -/
theorem parseFile_total {σ : Type} (S : Src σ) (inflate : Inflate) (m : Profile)
    (hS : ∀ n s p, S.read n s ≠ .panic p) (hinfl : ∀ z s, inflate z ≠ .panic s) (s : σ) :
    (∃ r, parseFile S inflate m s = .ok r) ∨ (∃ e, parseFile S inflate m s = .err e) :=
  ok_or_err_of_noPanic (fun p => parseFile_noPanic S inflate m hS hinfl s p)

/-- **C04** as `Res.NoPanic`; `parse_total` reads it as "a sprite or an error" -/
theorem parse_noPanic (inflate : Inflate) (hinfl : ∀ z s, inflate z ≠ .panic s) (m : Profile)
    (bs : Bytes) : Res.NoPanic (parse inflate m bs) := by
  unfold parse
  exact noPanic_map _ (fun p => (NP_parseFile srcNP_bytes hinfl m).np bs p)

/-- **C04**: for every byte string, both build profiles and every non-panicking inflate
    parameter, the model of `AsepriteFile::read` returns a sprite or an error value. -/
theorem parse_total (inflate : Inflate) (hinfl : ∀ z s, inflate z ≠ .panic s) (m : Profile)
    (bs : Bytes) :
    (∃ s, parse inflate m bs = .ok s) ∨ (∃ e, parse inflate m bs = .err e) :=
  ok_or_err_of_noPanic (parse_noPanic inflate hinfl m bs)

/-- non-vacuity of the error branch: the empty input is rejected with `UnexpectedEof` -/
example (inflate : Inflate) (m : Profile) :
    parse inflate m [] = .err (.io .unexpectedEof) := rfl

/-- non-vacuity of the error branch: a header with a wrong magic number is rejected with
    `InvalidInput` -/
example (inflate : Inflate) (m : Profile) :
    parse inflate m [0, 0, 0, 0, 0, 0] = .err .invalid := rfl

/-- non-vacuity of the value branch: a bare 128-byte header (RGBA, no frames) loads, in the
    checked profile, with an inflater that always fails -/
example : (parse (fun _ => .err .invalid) Profile.checked
    ([0, 0, 0, 0, 0xE0, 0xA5, 0, 0, 1, 0, 1, 0, 32, 0] ++ List.replicate 114 0)).isOk = true := by
  decide +kernel

/-- the hypothesis on `inflate` is satisfiable (and is needed: `unzip` forwards a panic) -/
example : ∀ z s, (fun _ => Res.err .invalid : Inflate) z ≠ .panic s := by
  intro z s h; cases h

end Ase.Proofs.C04
