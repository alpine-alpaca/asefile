import Ase.Render
import AseProofs.Lemmas.Assoc
/-
  C09  Layer parents and visibility follow the nesting levels.
-/
namespace Ase.Proofs.C09
open Ase

def smaller (levels : Array UInt16) (my : UInt16) (j : Nat) : Bool :=
  match levels[j]? with
  | some l => l < my
  | none => false

/-- Spec: the nearest preceding layer with a smaller nesting level; none at level 0. -/
def nearestSmaller (levels : Array UInt16) (i : Nat) : Option Nat :=
  match levels[i]? with
  | none => none
  | some my =>
      if my.toNat == 0 then none
      else (List.range i).reverse.find? (smaller levels my)

/-- the model's downward search is the `find?` with which `nearestSmaller` is written: the step
    from the loop to the spec in `computeParentsFrom_spec` -/
theorem findParent_eq (levels : Array UInt16) (my : UInt16) :
    ∀ cand, cand ≤ levels.size →
      findParent levels my cand =
        match (List.range cand).reverse.find? (smaller levels my) with
        | some p => .ok p
        | none => .err .invalid
  | 0, _ => rfl
  | c + 1, h => by
      have hget : levels[c]? = some levels[c] := Array.getElem?_eq_getElem (by omega)
      rw [find_down_succ, findParent, hget]
      simp only [smaller, hget, decide_eq_true_eq]
      split
      · rfl
      · exact findParent_eq levels my c (by omega)

/-- The parents the model computes for the layers `id, …, id + n - 1` are the spec's nearest
    smaller levels; when the computation fails it does so with the error value, never a panic,
    and some layer of non-zero level has no preceding layer of smaller level. -/
theorem computeParentsFrom_spec (levels : Array UInt16) :
    ∀ n id, id + n = levels.size →
      computeParentsFrom levels n id = .ok ((List.range' id n).map (nearestSmaller levels)) ∨
      (computeParentsFrom levels n id = .err .invalid ∧
        ∃ i, i < levels.size ∧ (levels[i]?.getD 0).toNat ≠ 0 ∧ nearestSmaller levels i = none) := by
  intro n
  induction n with
  | zero => intro id _; exact .inl rfl
  | succ n ih =>
      intro id h
      have hid : id < levels.size := by omega
      have hget : levels[id]? = some levels[id] := Array.getElem?_eq_getElem hid
      simp only [computeParentsFrom, hget, List.range'_succ, List.map_cons]
      -- the induction hypothesis with `x` put in front of the rest
      have ih' (x : Option Nat) := (ih (id + 1) (by omega)).imp
        (congrArg (Res.map (x :: ·))) (And.imp_left (congrArg (Res.map (x :: ·))))
      by_cases h0 : (levels[id]).toNat == 0
      · have hns : nearestSmaller levels id = none := by
          simp only [nearestSmaller, hget, h0, ↓reduceIte]
        rw [if_pos h0, hns]
        exact ih' none
      · have hns : nearestSmaller levels id =
            (List.range id).reverse.find? (smaller levels levels[id]) := by
          simp only [nearestSmaller, hget, h0, Bool.false_eq_true, ↓reduceIte]
        rw [if_neg h0, findParent_eq levels levels[id] id (by omega), hns]
        cases hfind : (List.range id).reverse.find? (smaller levels levels[id]) with
        | none =>
            refine .inr ⟨rfl, id, hid, ?_, by rw [hns, hfind]⟩
            simpa only [hget, Option.getD_some, ne_eq, beq_iff_eq] using h0
        | some p => exact ih' (some p)

/-- **C09 (parents)**: what `nearestSmaller` returns really is the nearest preceding smaller
    level -/
theorem nearestSmaller_some (levels : Array UInt16) (i p : Nat)
    (h : nearestSmaller levels i = some p) :
    p < i ∧ (∃ my l, levels[i]? = some my ∧ levels[p]? = some l ∧ l < my) ∧
      ∀ j, p < j → j < i → ∀ my l, levels[i]? = some my → levels[j]? = some l → ¬ l < my := by
  unfold nearestSmaller at h
  cases hi : levels[i]? with
  | none => simp only [hi, reduceCtorEq] at h
  | some my =>
      simp only [hi] at h
      by_cases h0 : my.toNat == 0
      · simp only [h0, ↓reduceIte, reduceCtorEq] at h
      · simp only [h0, Bool.false_eq_true, if_false] at h
        obtain ⟨h1, h2, h3⟩ := find_down_iff.mp h
        refine ⟨h1, ?_, ?_⟩
        · unfold smaller at h2
          cases hpl : levels[p]? with
          | none => simp only [hpl, Bool.false_eq_true] at h2
          | some l => exact ⟨my, l, rfl, rfl, by simpa only [hpl, decide_eq_true_eq] using h2⟩
        · intro j hpj hji my' l hmy hl hlt
          cases hmy
          have := h3 j hpj hji
          simp only [smaller, hl, hlt, decide_true, Bool.true_eq_false] at this

/-- the "none at level 0" of `parents_spec` -/
theorem nearestSmaller_level0 (levels : Array UInt16) (i : Nat) (my : UInt16)
    (h : levels[i]? = some my) (h0 : my.toNat = 0) : nearestSmaller levels i = none := by
  simp only [nearestSmaller, h, h0, BEq.rfl, ↓reduceIte]

/-- For every level sequence whose first level is 0 (in particular every forest, of any
    depth) the parent computation succeeds: layer 0 is a smaller level for every other one. -/
theorem computeParentsFrom_ok (levels : Array UInt16) (hpos : 0 < levels.size)
    (hfirst : (levels[0]'hpos).toNat = 0) (n id : Nat) (h : id + n = levels.size) :
    computeParentsFrom levels n id = .ok ((List.range' id n).map (nearestSmaller levels)) := by
  rcases computeParentsFrom_spec levels n id h with e | ⟨_, i, hi, hne, hnone⟩
  · exact e
  · exfalso
    have hget : levels[i]? = some levels[i] := Array.getElem?_eq_getElem hi
    rw [hget, Option.getD_some] at hne
    have h00 : levels[0]? = some (levels[0]'hpos) := Array.getElem?_eq_getElem hpos
    have hipos : 0 < i := Nat.pos_of_ne_zero fun hz => by
      subst hz
      exact hne hfirst
    have hsm : smaller levels levels[i] 0 = true := by
      simp only [smaller, h00, decide_eq_true_eq]
      rw [UInt16.lt_iff_toNat_lt, hfirst]
      omega
    have h0 : ¬ ((levels[i]).toNat == 0) = true := by simpa only [beq_iff_eq, ne_eq] using hne
    simp only [nearestSmaller, hget, h0, Bool.false_eq_true, ↓reduceIte, List.find?_eq_none,
      List.mem_reverse, List.mem_range, Bool.not_eq_true] at hnone
    rw [hnone 0 hipos] at hsm
    cases hsm

theorem levels_size (layers : Array LayerData) :
    0 + layers.size = (layers.map (·.childLevel)).size := by
  rw [Nat.zero_add, Array.size_map]

/-- **C09 (parents)**: for every layer sequence whose first nesting level is 0, the model's
    `compute_parents` returns, for each layer, exactly the nearest preceding layer with a
    smaller level (none at level 0). -/
theorem parents_spec (layers : Array LayerData) (hpos : 0 < layers.size)
    (hfirst : (layers[0]'hpos).childLevel.toNat = 0) :
    ∃ ps, computeParents layers = .ok ps ∧ ps.size = layers.size ∧
      ∀ i, i < layers.size → ps[i]? = some (nearestSmaller (layers.map (·.childLevel)) i) := by
  have hpos' : 0 < (layers.map (·.childLevel)).size := by
    rw [Array.size_map]
    exact hpos
  have hfirst' : ((layers.map (·.childLevel))[0]'hpos').toNat = 0 := by
    rw [Array.getElem_map]
    exact hfirst
  have hps := computeParentsFrom_ok _ hpos' hfirst' layers.size 0 (levels_size layers)
  refine ⟨((List.range' 0 layers.size).map (nearestSmaller (layers.map (·.childLevel)))).toArray,
    ?_, ?_, ?_⟩
  · simp only [computeParents, hps, Res.map_ok]
  · simp only [List.size_toArray, List.length_map, List.length_range']
  · intro i hi
    simp only [List.size_toArray, List.length_map, List.length_range', hi, getElem?_pos,
      List.getElem_toArray, List.getElem_map, List.getElem_range', Nat.one_mul, Nat.zero_add]

/-- **C09 (parents)**: the parent computation never panics, whatever the levels are -/
theorem computeParents_noPanic (layers : Array LayerData) : Res.NoPanic (computeParents layers) := by
  intro s h
  unfold computeParents at h
  rcases computeParentsFrom_spec _ layers.size 0 (levels_size layers) with e | ⟨e, _⟩
  · rw [e] at h
    cases h
  · rw [e] at h
    cases h


/-- `Anc parents a i`: `a` is `i` or an ancestor of `i` through the parents table -/
inductive Anc (parents : Array (Option Nat)) : Nat → Nat → Prop where
  | refl (i : Nat) : Anc parents i i
  | step {a p i : Nat} : parents[i]? = some (some p) → Anc parents a p → Anc parents a i

theorem forall_anc {parents : Array (Option Nat)} {P : Nat → Prop} (i : Nat) :
    (∀ a, Anc parents a i → P a) ↔
      (P i ∧ ∀ p, parents[i]? = some (some p) → ∀ a, Anc parents a p → P a) := by
  constructor
  · exact fun h => ⟨h i (.refl i), fun p hp a ha => h a (.step hp ha)⟩
  · intro ⟨h1, h2⟩ a ha
    cases ha with
    | refl => exact h1
    | step hp ha => exact h2 _ hp a ha

def flagOf (s : Sprite) (a : Nat) : Bool :=
  match s.layers[a]? with
  | some l => l.visibleFlag
  | none => false

theorem isVisibleFuel_spec (s : Sprite) (hsz : s.parents.size = s.layers.size)
    (hlt : ∀ i p : Nat, s.parents[i]? = some (some p) → p < i) :
    ∀ fuel i, i < fuel → i < s.layers.size →
      ∃ b, s.isVisibleFuel fuel i = .ok b ∧
        (b = true ↔ ∀ a, Anc s.parents a i → flagOf s a = true) := by
  intro fuel
  induction fuel with
  | zero => intro i h; omega
  | succ fuel ih =>
      intro i hif hi
      have hl : s.layers[i]? = some s.layers[i] := Array.getElem?_eq_getElem hi
      have hpi : i < s.parents.size := hsz ▸ hi
      have hp : s.parents[i]? = some s.parents[i] := Array.getElem?_eq_getElem hpi
      have hflag : flagOf s i = s.layers[i].visibleFlag := by simp only [flagOf, hl]
      rw [forall_anc i, hflag, hp]
      simp only [Sprite.isVisibleFuel, hl, hp]
      cases hv : s.layers[i].visibleFlag with
      | false => exact ⟨false, rfl, fun h => Bool.noConfusion h, fun h => h.1⟩
      | true =>
          cases hpar : s.parents[i] with
          | none => exact ⟨true, rfl, fun _ => ⟨rfl, fun p hp => by cases hp⟩, fun _ => rfl⟩
          | some p =>
              have hlow := hlt i p (by rw [hp, hpar])
              obtain ⟨b, hb, hiff⟩ := ih p (by omega) (by omega)
              refine ⟨b, hb, hiff.trans ?_⟩
              -- `p` is the one parent of `i`
              constructor
              · exact fun h => ⟨rfl, fun p' hp' => by cases hp'; exact h⟩
              · exact fun h => h.2 p rfl

/-- **C09 (visibility)**: when every parent has a lower id than its child, `is_visible`
    returns (no panic, no missing fuel) and is true exactly when the visible flag of the layer
    and of all its ancestors is set. -/
theorem isVisible_iff (s : Sprite) (hsz : s.parents.size = s.layers.size)
    (hlt : ∀ i p : Nat, s.parents[i]? = some (some p) → p < i) (i : Nat) (hi : i < s.layers.size) :
    ∃ b, s.isVisible i = .ok b ∧ (b = true ↔ ∀ a, Anc s.parents a i → flagOf s a = true) :=
  isVisibleFuel_spec s hsz hlt (s.layers.size + 1) i (by omega) hi

/-- **C09 (parents)**: the parents computed at load time have lower ids than their children -/
theorem parents_lt (layers : Array LayerData) (ps : Array (Option Nat))
    (h : computeParents layers = .ok ps) :
    ps.size = layers.size ∧ ∀ i p : Nat, ps[i]? = some (some p) → p < i := by
  unfold computeParents at h
  rcases computeParentsFrom_spec _ layers.size 0 (levels_size layers) with e | ⟨e, _⟩
  · rw [e] at h
    cases h
    refine ⟨by simp only [List.size_toArray, List.length_map, List.length_range'], ?_⟩
    intro i p hip
    simp only [List.getElem?_toArray, List.getElem?_map] at hip
    by_cases hi : i < layers.size
    · simp only [List.length_range', hi, getElem?_pos, List.getElem_range', Nat.one_mul,
        Nat.zero_add, Option.map_some, Option.some.injEq] at hip
      exact (nearestSmaller_some _ i p hip).1
    · simp only [List.length_range', hi, not_false_eq_true, getElem?_neg, Option.map_none,
        reduceCtorEq] at hip
  · rw [e] at h
    cases h

/-- non-vacuity: a three-layer forest (group, child, sibling) meets the hypotheses -/
example : ∃ ps, computeParents #[
    { flags := 1, name := [], blendMode := 0, opacity := 255, layerType := .group, childLevel := 0, userData := none },
    { flags := 0, name := [], blendMode := 0, opacity := 255, layerType := .image, childLevel := 1, userData := none },
    { flags := 1, name := [], blendMode := 0, opacity := 255, layerType := .image, childLevel := 0, userData := none }]
    = .ok ps ∧ ps = #[none, some 0, none] := ⟨_, by decide +kernel, rfl⟩

end Ase.Proofs.C09
