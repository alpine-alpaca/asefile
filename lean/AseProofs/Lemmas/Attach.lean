import Ase.Spec.Attach
import AseProofs.Lemmas.Assoc
/-
  C10, the declarative definitions of `Ase/Spec/Attach.lean` one appended event at a time: each
  has a `_snoc` equation and depends only on the prefix before the position asked about (so the
  side conditions of `AttachWF` pass to prefixes).  Everything downstream is an induction on
  appended events through these.
-/
namespace Ase.Proofs.C10
open Ase Ase.Spec

theorem snoc_induction {α} {P : List α → Prop} (nil : P [])
    (snoc : ∀ l a, P l → P (l ++ [a])) : ∀ l, P l := by
  intro l
  have h : ∀ r : List α, P r.reverse := by
    intro r
    induction r with
    | nil => simpa using nil
    | cons a r ih => simpa using snoc _ a ih
  simpa using h l.reverse

theorem findSome?_congr {α β} {f g : α → Option β} {l : List α}
    (h : ∀ x ∈ l, f x = g x) :
    l.findSome? f = l.findSome? g := by
  induction l with
  | nil => rfl
  | cons a l ih =>
      rw [List.findSome?_cons, List.findSome?_cons, h a List.mem_cons_self,
        ih fun x hx => h x (List.mem_cons_of_mem _ hx)]

theorem findSome?_range_succ {β} {f g : Nat → Option β} {n : Nat}
    (h : ∀ i, i < n → g i = f i) :
    (List.range (n + 1)).reverse.findSome? g =
      match g n with
      | some b => some b
      | none => (List.range n).reverse.findSome? f := by
  rw [range_succ_reverse, List.findSome?_cons,
    findSome?_congr fun i hi => h i (by simpa using hi)]
  cases g n <;> rfl

theorem ctxAt_append_left {evs r : List Ev} {j : Nat} (h : j < evs.length) :
    ctxAt (evs ++ r) j = ctxAt evs j := by
  simp [ctxAt, List.getElem?_append_left h]

theorem ctxAt_snoc_length (evs : List Ev) (e : Ev) : ctxAt (evs ++ [e]) evs.length = e.isCtx := by
  simp [ctxAt]

theorem lastCtx_succ (evs : List Ev) (i : Nat) :
    lastCtx evs (i + 1) = if ctxAt evs i then some i else lastCtx evs i :=
  find_down_succ _ i

theorem lastCtx_append {evs r : List Ev} {i : Nat} (h : i ≤ evs.length) :
    lastCtx (evs ++ r) i = lastCtx evs i := by
  induction i with
  | zero => rfl
  | succ i ih => rw [lastCtx_succ, lastCtx_succ, ctxAt_append_left h, ih (Nat.le_of_lt h)]

theorem lastCtx_lt {evs : List Ev} {i j : Nat} (h : lastCtx evs i = some j) :
    j < i ∧ ctxAt evs j = true :=
  ⟨(find_down_iff.mp h).1, (find_down_iff.mp h).2.1⟩

theorem lastCtx_snoc (evs : List Ev) (e : Ev) :
    lastCtx (evs ++ [e]) (evs.length + 1) =
      if e.isCtx then some evs.length else lastCtx evs evs.length := by
  rw [lastCtx_succ, ctxAt_snoc_length, lastCtx_append (Nat.le_refl _)]

theorem lastCtx_greatest {evs : List Ev} {i j : Nat} (h : lastCtx evs i = some j) :
    ∀ j', j < j' → j' < i → ctxAt evs j' = false :=
  (find_down_iff.mp h).2.2

theorem lastCtx_none {evs : List Ev} {i : Nat} (h : lastCtx evs i = none) :
    ∀ j, j < i → ctxAt evs j = false := fun j hj =>
  Bool.eq_false_iff.mpr
    (List.find?_eq_none.mp h j (List.mem_reverse.mpr (List.mem_range.mpr hj)))

theorem attachTarget_append {evs r : List Ev} {i : Nat} (h : i ≤ evs.length) :
    attachTarget (evs ++ r) i = attachTarget evs i := by
  unfold attachTarget
  rw [lastCtx_append h]
  cases hj : lastCtx evs i with
  | none => rfl
  | some j =>
      have hji := (lastCtx_lt hj).1
      have h1 : (evs ++ r)[j]? = evs[j]? := List.getElem?_append_left (by omega)
      have h2 : (evs ++ r).take j = evs.take j := List.take_append_of_le_length (by omega)
      have h3 : (evs ++ r).take i = evs.take i := List.take_append_of_le_length h
      simp only [h1, h2, h3]

theorem attachTarget_take {evs : List Ev} {i : Nat} (h : i ≤ evs.length) :
    attachTarget evs i = attachTarget (evs.take i) (evs.take i).length := by
  have hl : (evs.take i).length = i := by simp [h]
  conv => lhs; rw [← List.take_append_drop i evs]
  rw [attachTarget_append (by omega), hl]

def ctxTarget (evs : List Ev) : Ev → Option Target
  | .layer => some (.layer (evs.countP Ev.isLayer))
  | .cel f l => some (.cel f l)
  | .slice => some (.slice (evs.countP Ev.isSlice))
  | .oldPalette => some .sprite
  | .tags _ => some (.tag 0)
  | _ => none

/-- the effect of a record on the target: `set_tag_user_data` moves the context to the next tag -/
def bump : Target → Target
  | .tag k => .tag (k + 1)
  | t => t

theorem attachTarget_nil : attachTarget [] 0 = none := rfl

theorem attachTarget_snoc (evs : List Ev) (e : Ev) :
    attachTarget (evs ++ [e]) (evs ++ [e]).length =
      if e.isCtx then ctxTarget evs e
      else if e.isUD then (attachTarget evs evs.length).map bump
      else attachTarget evs evs.length := by
  unfold attachTarget
  rw [List.length_append, List.length_singleton, lastCtx_snoc]
  by_cases hc : e.isCtx = true
  · simp only [hc, if_true]
    have h1 : (evs ++ [e])[evs.length]? = some e := by simp
    have h2 : (evs ++ [e]).take evs.length = evs := by simp
    have h3 : ((evs ++ [e]).take (evs.length + 1)).drop (evs.length + 1) = [] := by simp
    simp only [h1, h2, h3]
    cases e with
    | userData u => cases hc
    | other => cases hc
    | _ => rfl
  · simp only [hc, Bool.false_eq_true, if_false]
    cases hj : lastCtx evs evs.length with
    | none => cases e.isUD <;> simp
    | some j =>
        have hji := (lastCtx_lt hj).1
        have h1 : (evs ++ [e])[j]? = evs[j]? := List.getElem?_append_left hji
        have h2 : (evs ++ [e]).take j = evs.take j := List.take_append_of_le_length (by omega)
        have h3 : ((evs ++ [e]).take (evs.length + 1)).drop (j + 1) = evs.drop (j + 1) ++ [e] := by
          have : (evs ++ [e]).take (evs.length + 1) = evs ++ [e] := by
            apply List.take_of_length_le; simp
          rw [this, List.drop_append_of_le_length (by omega)]
        have h4 : (evs.take evs.length).drop (j + 1) = evs.drop (j + 1) := by simp
        simp only [h1, h2, h3, h4, List.countP_append]
        -- only a tags target counts the records after `j`, where `e` adds one iff it is a record
        cases hev : evs[j]? with
        | none => cases e.isUD <;> simp
        | some e' =>
            cases e' with
            | tags n => cases hu : e.isUD <;> simp [bump, hu]
            | _ => cases e.isUD <;> rfl

theorem recordAt_append {evs r : List Ev} {lo : Nat} {t : Target} {i : Nat}
    (h : i < evs.length) : recordAt (evs ++ r) lo t i = recordAt evs lo t i := by
  unfold recordAt
  rw [List.getElem?_append_left h, attachTarget_append (Nat.le_of_lt h)]

theorem attachedSince_snoc (evs : List Ev) (e : Ev) (lo : Nat) (t : Target) :
    attachedSince (evs ++ [e]) lo t =
      match e with
      | .userData u =>
          if lo ≤ evs.length ∧ attachTarget evs evs.length = some t then some u
          else attachedSince evs lo t
      | _ => attachedSince evs lo t := by
  have h1 : (evs ++ [e])[evs.length]? = some e := by simp
  unfold attachedSince
  rw [List.length_append, List.length_singleton,
    findSome?_range_succ fun i hi => recordAt_append hi, recordAt, h1,
    attachTarget_append (Nat.le_refl _)]
  cases e with
  | userData u =>
      by_cases hc : lo ≤ evs.length ∧ attachTarget evs evs.length = some t <;> simp [hc]
  | _ => rfl

theorem attachedSince_nil (lo : Nat) (t : Target) : attachedSince [] lo t = none := rfl

theorem attached_snoc (evs : List Ev) (e : Ev) (t : Target) :
    attached (evs ++ [e]) t =
      match e with
      | .userData u => if attachTarget evs evs.length = some t then some u else attached evs t
      | _ => attached evs t := by
  unfold attached
  rw [attachedSince_snoc]
  cases e <;> simp

theorem lastTags_snoc (evs : List Ev) (e : Ev) :
    lastTags (evs ++ [e]) =
      match e with
      | .tags n => some (evs.length, n)
      | _ => lastTags evs := by
  have h1 : (evs ++ [e])[evs.length]? = some e := by simp
  have hlt : ∀ i, i < evs.length → tagsAt (evs ++ [e]) i = tagsAt evs i := fun i hi => by
    rw [tagsAt, tagsAt, List.getElem?_append_left hi]
  unfold lastTags
  rw [List.length_append, List.length_singleton, findSome?_range_succ hlt, tagsAt, h1]
  cases e <;> rfl

theorem lastTags_lt (evs : List Ev) (j n : Nat) (h : lastTags evs = some (j, n)) :
    j < evs.length := by
  obtain ⟨i, hi, hr⟩ := List.exists_of_findSome?_eq_some h
  unfold tagsAt at hr
  split at hr <;> cases hr
  simpa using hi

theorem tagLimit_append {evs r : List Ev} {i : Nat} (h : i ≤ evs.length) :
    tagLimit (evs ++ r) i = tagLimit evs i := by
  unfold tagLimit
  rw [lastCtx_append h]
  cases hj : lastCtx evs i with
  | none => rfl
  | some j =>
      have hji := (lastCtx_lt hj).1
      have h1 : (evs ++ r)[j]? = evs[j]? := List.getElem?_append_left (by omega)
      simp only [h1]

theorem tagLimit_snoc (evs : List Ev) (e : Ev) :
    tagLimit (evs ++ [e]) (evs ++ [e]).length =
      if e.isCtx then (match e with | .tags n => some n | _ => none)
      else tagLimit evs evs.length := by
  unfold tagLimit
  rw [List.length_append, List.length_singleton, lastCtx_snoc]
  by_cases hc : e.isCtx = true
  · simp only [hc, if_true]
    have h1 : (evs ++ [e])[evs.length]? = some e := by simp
    simp only [h1]
    cases e <;> rfl
  · simp only [hc, Bool.false_eq_true, if_false]
    cases hj : lastCtx evs evs.length with
    | none => rfl
    | some j =>
        have hji := (lastCtx_lt hj).1
        have h1 : (evs ++ [e])[j]? = evs[j]? := List.getElem?_append_left hji
        simp only [h1]

theorem countP_snoc_of_false {p : Ev → Bool} (evs : List Ev) (e : Ev) (h : p e = false) :
    (evs ++ [e]).countP p = evs.countP p := by
  simp [List.countP_append, h]

theorem countP_snoc_of_true {p : Ev → Bool} (evs : List Ev) (e : Ev) (h : p e = true) :
    (evs ++ [e]).countP p = evs.countP p + 1 := by
  simp [List.countP_append, h]

/-- entity `t` has been introduced by an event of `evs` (a tag: by some tags event) -/
def Live (evs : List Ev) : Target → Prop
  | .layer k => k < evs.countP Ev.isLayer
  | .slice k => k < evs.countP Ev.isSlice
  | .cel f l => Ev.cel f l ∈ evs
  | .sprite => True
  | .tag _ => lastTags evs ≠ none

theorem Live.snoc {evs : List Ev} {t : Target} (e : Ev) (h : Live evs t) : Live (evs ++ [e]) t := by
  cases t with
  | layer k | slice k =>
      simp only [Live, List.countP_append] at h ⊢
      omega
  | cel f l => exact List.mem_append_left _ h
  | sprite => trivial
  | tag k =>
      simp only [Live, lastTags_snoc] at h ⊢
      cases e <;> simp [h]

theorem Live.bump {evs : List Ev} {t : Target} (h : Live evs t) : Live evs (bump t) := by
  cases t <;> exact h

theorem target_live : ∀ (evs : List Ev) (t : Target),
    attachTarget evs evs.length = some t → Live evs t := by
  intro evs
  induction evs using snoc_induction with
  | nil => intro t h; cases h
  | snoc evs e ih =>
      intro t h
      rw [attachTarget_snoc] at h
      by_cases hc : e.isCtx = true
      · -- the event that sets the target is the one that introduces the entity: the layer or
        -- slice count goes up, the cel is a member, a tags event makes `lastTags` `some`
        rw [if_pos hc] at h
        cases e <;> cases h <;> simp [Live, lastTags_snoc, Ev.isLayer, Ev.isSlice]
      · rw [if_neg hc] at h
        refine Live.snoc e ?_
        split at h
        · obtain ⟨t0, h0, rfl⟩ := Option.map_eq_some_iff.mp h
          exact (ih t0 h0).bump
        · exact ih t h

theorem target_tag_lastTags : ∀ (evs : List Ev) (k : Nat),
    attachTarget evs evs.length = some (.tag k) →
      ∃ j n, lastTags evs = some (j, n) ∧ tagLimit evs evs.length = some n := by
  intro evs
  induction evs using snoc_induction with
  | nil => intro k h; cases h
  | snoc evs e ih =>
      intro k h
      rw [attachTarget_snoc] at h
      rw [tagLimit_snoc, lastTags_snoc]
      cases e with
      | tags n => exact ⟨evs.length, n, rfl, rfl⟩
      | userData u =>
          obtain ⟨t0, h0, hb⟩ := Option.map_eq_some_iff.mp h
          cases t0 <;> cases hb
          exact ih _ h0
      | other => exact ih _ h
      | _ => cases h

theorem attachedSince_dead : ∀ (evs : List Ev) (lo : Nat) (t : Target),
    ¬ Live evs t → attachedSince evs lo t = none := by
  intro evs
  induction evs using snoc_induction with
  | nil => intro _ _ _; rfl
  | snoc evs e ih =>
      intro lo t hd
      have hd' : ¬ Live evs t := fun h => hd (h.snoc e)
      rw [attachedSince_snoc]
      cases e with
      | userData u => exact (if_neg fun h => hd' (target_live _ _ h.2)).trans (ih lo t hd')
      | _ => exact ih lo t hd'

theorem recordAt_some {evs : List Ev} {lo : Nat} {t : Target} {i : Nat} {u : UserData}
    (h : recordAt evs lo t i = some u) :
    evs[i]? = some (.userData u) ∧ lo ≤ i ∧ attachTarget evs i = some t := by
  unfold recordAt at h
  split at h
  · rename_i he
    split at h <;> cases h
    rename_i hc
    exact ⟨he, hc.1, hc.2⟩
  · cases h

theorem attachedSince_sound {evs : List Ev} {lo : Nat} {t : Target} {u : UserData}
    (h : attachedSince evs lo t = some u) :
    ∃ i, lo ≤ i ∧ i < evs.length ∧ evs[i]? = some (.userData u) ∧ attachTarget evs i = some t := by
  unfold attachedSince at h
  obtain ⟨i, hi, hr⟩ := List.exists_of_findSome?_eq_some h
  simp only [List.mem_reverse, List.mem_range] at hi
  obtain ⟨h1, h2, h3⟩ := recordAt_some hr
  exact ⟨i, h2, hi, h1, h3⟩

theorem attachedSince_of_length_le (evs : List Ev) (t : Target) (lo : Nat) (hlo : evs.length ≤ lo) :
    attachedSince evs lo t = none := by
  cases h : attachedSince evs lo t with
  | none => rfl
  | some u =>
      obtain ⟨i, h1, h2, _⟩ := attachedSince_sound h
      omega

theorem udAt_append {evs r : List Ev} {i : Nat} (h : i < evs.length) :
    udAt (evs ++ r) i = udAt evs i := by
  simp [udAt, List.getElem?_append_left h]

theorem celAt_append {evs r : List Ev} {i : Nat} (h : i < evs.length) :
    celAt (evs ++ r) i = celAt evs i := by
  simp [celAt, List.getElem?_append_left h]

theorem tagOK_append {evs r : List Ev} {i : Nat} (h : i ≤ evs.length) :
    tagOK (evs ++ r) i = tagOK evs i := by
  simp [tagOK, attachTarget_append h, tagLimit_append h]

theorem celFrameOK_append {nf : Nat} {evs r : List Ev} {i : Nat} (h : i < evs.length) :
    celFrameOK nf (evs ++ r) i = celFrameOK nf evs i := by
  simp [celFrameOK, celAt_append h]

theorem lt_length_append {α} {l r : List α} {i : Nat} (h : i < l.length) :
    i < (l ++ r).length :=
  List.length_append ▸ Nat.lt_add_right _ h

theorem hasTarget_prefix {evs r : List Ev} (h : HasTarget (evs ++ r)) : HasTarget evs := by
  intro i hi hu
  have := h i (lt_length_append hi) (by rwa [udAt_append hi])
  rwa [attachTarget_append (Nat.le_of_lt hi)] at this

theorem noDouble_prefix {evs r : List Ev} (h : NoDouble (evs ++ r)) : NoDouble evs := by
  intro i hi i' hi' hu hu' heq
  refine h i (lt_length_append hi) i' (lt_length_append hi') ?_ ?_ ?_
  · rwa [udAt_append hi]
  · rwa [udAt_append hi']
  · rwa [attachTarget_append (Nat.le_of_lt hi), attachTarget_append (Nat.le_of_lt hi')]

theorem tagsBounded_prefix {evs r : List Ev} (h : TagsBounded (evs ++ r)) : TagsBounded evs := by
  intro i hi hu
  have := h i (lt_length_append hi) (by rwa [udAt_append hi])
  rwa [tagOK_append (Nat.le_of_lt hi)] at this

theorem celFramesOK_prefix {nf : Nat} {evs r : List Ev} (h : CelFramesOK nf (evs ++ r)) :
    CelFramesOK nf evs := by
  intro i hi
  have := h i (lt_length_append hi)
  rwa [celFrameOK_append hi] at this

theorem celsDistinct_prefix {evs r : List Ev} (h : CelsDistinct (evs ++ r)) :
    CelsDistinct evs := by
  intro i hi i' hi' hne heq
  refine h i (lt_length_append hi) i' (lt_length_append hi') ?_ ?_
  · rwa [celAt_append hi]
  · rwa [celAt_append hi, celAt_append hi']

theorem attachWF_prefix {nf : Nat} {evs r : List Ev} (h : AttachWF nf (evs ++ r)) :
    AttachWF nf evs :=
  ⟨hasTarget_prefix h.hasTarget, noDouble_prefix h.noDouble, tagsBounded_prefix h.tagsBounded,
    celFramesOK_prefix h.celFrames, celsDistinct_prefix h.celsDistinct⟩

end Ase.Proofs.C10
