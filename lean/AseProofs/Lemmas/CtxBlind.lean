import AseProofs.Lemmas.Run
import AseProofs.Lemmas.Assoc
/-
  First, no-op items can be erased from a run.  Then the user-data context of the parser state
  (`ParseInfo.ctx`): which items overwrite it, which neither read nor write it, and continuations
  that do not see it (`CtxBlind`); the cel table under reordering of cel items.
-/
namespace Ase.Proofs.WholeFile
open Ase Ase.Proofs

def isNoop : Spec.SItem → Bool
  | .noop => true
  | _ => false

theorem runItems_filter_noop (frame : Nat) (its : List Spec.SItem) : ∀ (pi : ParseInfo),
    Spec.runItems frame pi (its.filter (fun i => !isNoop i)) = Spec.runItems frame pi its := by
  induction its with
  | nil =>
      intro pi
      rfl
  | cons x t ih =>
      intro pi
      cases x with
      | noop =>
          rw [List.filter_cons_of_neg Bool.false_ne_true, runItems_cons]
          exact ih pi
      | _ =>
          rw [List.filter_cons_of_pos rfl, runItems_cons, runItems_cons]
          exact congrArg _ (funext ih)

def dropNoops (frames : List (UInt16 × List Spec.SItem)) : List (UInt16 × List Spec.SItem) :=
  frames.map (fun f => (f.1, f.2.filter (fun i => !isNoop i)))

theorem runFrames_dropNoops : ∀ (frames : List (UInt16 × List Spec.SItem)) (k : Nat)
    (pi : ParseInfo), Spec.runFrames k pi (dropNoops frames) = Spec.runFrames k pi frames
  | [], _, _ => rfl
  | (d, its) :: t, k, pi => by
      show Spec.runFrames k pi ((d, its.filter (fun i => !isNoop i)) :: dropNoops t) = _
      rw [runFrames_cons, runFrames_cons, Spec.runFrame, runItems_filter_noop]
      exact congrArg _ (funext (runFrames_dropNoops t (k + 1)))

def setCtx (c : Option UDCtx) (pi : ParseInfo) : ParseInfo := { pi with ctx := c }

@[simp] theorem setCtx_setCtx (a b : Option UDCtx) (pi : ParseInfo) :
    setCtx a (setCtx b pi) = setCtx a pi := rfl

/-- items that overwrite the context without reading it -/
def setsCtx (frame : Nat) : Spec.SItem → Bool
  | .layer _ | .cel _ | .slice _ | .oldPalette _ => true
  | .tags _ => frame == 0
  | _ => false

/-- items that neither read nor write the context -/
def ctxNeutral (frame : Nat) : Spec.SItem → Bool
  | .palette _ | .extFiles _ | .tileset _ | .noop => true
  | .tags _ => frame != 0
  | _ => false

theorem addCel_setCtx (c : Option UDCtx) (pi : ParseInfo) (frame : Nat) (cel : RawCel RawPixels) :
    (setCtx c pi).addCel frame cel = pi.addCel frame cel := by
  simp only [ParseInfo.addCel, setCtx]

theorem stepSem_setsCtx (c : Option UDCtx) (frame : Nat) (pi : ParseInfo) (it : Spec.SItem)
    (h : setsCtx frame it = true) :
    Spec.stepSem frame (setCtx c pi) it = Spec.stepSem frame pi it := by
  cases it with
  | cel cel => exact addCel_setCtx c pi frame cel
  | tags ts =>
      simp only [setsCtx] at h
      simp only [Spec.stepSem, h, if_true]
      rfl
  | oldPalette p =>
      rw [stepSem_oldPalette, stepSem_oldPalette]
      rfl
  | layer l => rfl
  | slice s => rfl
  | _ => cases h

theorem stepSem_neutral (c : Option UDCtx) (frame : Nat) (pi : ParseInfo) (it : Spec.SItem)
    (h : ctxNeutral frame it = true) :
    Spec.stepSem frame (setCtx c pi) it = (Spec.stepSem frame pi it).map (setCtx c) := by
  cases it with
  | tags ts =>
      have h0 : (frame == 0) = false := by
        simpa only [beq_eq_false_iff_ne, ne_eq, ctxNeutral, bne_iff_ne] using h
      simp only [Spec.stepSem, h0]
      rfl
  | palette p => rfl
  | extFiles fs => rfl
  | tileset t => rfl
  | noop => rfl
  | _ => cases h

/-- `K` gives the same result from states that differ in the user-data context only -/
def CtxBlind {β} (K : ParseInfo → Res β) : Prop := ∀ c q, K (setCtx c q) = K q

theorem CtxBlind.validate (h : Header) (fmt : PixelFormat) : CtxBlind (validate h fmt) :=
  fun _ _ => rfl

theorem CtxBlind.step_sets {β} {frame : Nat} {it : Spec.SItem} (hit : setsCtx frame it = true)
    (K : ParseInfo → Res β) : CtxBlind (fun q => Spec.stepSem frame q it >>= K) := fun c q => by
  show (Spec.stepSem frame (setCtx c q) it >>= K) = (Spec.stepSem frame q it >>= K)
  rw [stepSem_setsCtx c frame q it hit]

theorem CtxBlind.items_neutral {β} {frame : Nat} (mid : List Spec.SItem)
    (hmid : ∀ x ∈ mid, ctxNeutral frame x = true) {K : ParseInfo → Res β} (hK : CtxBlind K) :
    CtxBlind (fun q => Spec.runItems frame q mid >>= K) := fun c q => by
  show (Spec.runItems frame (setCtx c q) mid >>= K) = (Spec.runItems frame q mid >>= K)
  rw [runItems_comm (setCtx c) frame mid
    (fun it hit pi => stepSem_neutral c frame pi it (hmid it hit))]
  cases Spec.runItems frame q mid with
  | ok q' => exact hK c q'
  | err _ => rfl
  | panic _ => rfl

theorem CtxBlind.items_overwritten {β} {frame : Nat} (mid : List Spec.SItem) (it : Spec.SItem)
    (rest : List Spec.SItem) (hmid : ∀ x ∈ mid, ctxNeutral frame x = true)
    (hit : setsCtx frame it = true) (K : ParseInfo → Res β) :
    CtxBlind (fun q => Spec.runItems frame q (mid ++ it :: rest) >>= K) := fun c q => by
  have e : ∀ q, (Spec.runItems frame q (mid ++ it :: rest) >>= K) =
      (Spec.runItems frame q mid >>= fun q' =>
        Spec.stepSem frame q' it >>= fun q'' => Spec.runItems frame q'' rest >>= K) := by
    intro q
    rw [runItems_append, Res.bind_assoc]
    simp only [runItems_cons, Res.bind_assoc]
  show (Spec.runItems frame (setCtx c q) (mid ++ it :: rest) >>= K) =
    (Spec.runItems frame q (mid ++ it :: rest) >>= K)
  rw [e, e]
  exact CtxBlind.items_neutral mid hmid (CtxBlind.step_sets hit _) c q

theorem runItems_ctx_overwritten (frame : Nat) (mid : List Spec.SItem) (it : Spec.SItem)
    (rest : List Spec.SItem) (hmid : ∀ x ∈ mid, ctxNeutral frame x = true)
    (hit : setsCtx frame it = true) (c : Option UDCtx) (pi : ParseInfo) :
    Spec.runItems frame (setCtx c pi) (mid ++ it :: rest) =
      Spec.runItems frame pi (mid ++ it :: rest) := by
  have := CtxBlind.items_overwritten mid it rest hmid hit Res.ok c pi
  simpa only [Res.bind_ok_right] using this

theorem addCelRows_some (cels : Array (FrameCels RawPixels)) (frame : Nat)
    (row : FrameCels RawPixels) (h : cels[frame]? = some row) (cel : RawCel RawPixels) :
    addCelRows cels frame cel =
      if (FrameCels.get? cel.data.layerIndex.toNat row).isSome then .err .invalid
      else .ok (cels.set! frame (FrameCels.insert cel.data.layerIndex.toNat cel row)) := by
  simp only [addCelRows, h]

theorem addCelRows_set (cels : Array (FrameCels RawPixels)) (frame : Nat)
    (row r : FrameCels RawPixels) (h : cels[frame]? = some row) (cel : RawCel RawPixels) :
    addCelRows (cels.set! frame r) frame cel =
      if (FrameCels.get? cel.data.layerIndex.toNat r).isSome then .err .invalid
      else .ok (cels.set! frame (FrameCels.insert cel.data.layerIndex.toNat cel r)) := by
  -- the row at `frame` is `r`, and the second write replaces the first
  simp only [addCelRows, Array.set!_eq_setIfInBounds, Array.size_setIfInBounds,
    lt_size_of_getElem? h, getElem?_pos, Array.getElem_setIfInBounds_self,
    Array.setIfInBounds_setIfInBounds]

theorem addCelRows_swap (cels : Array (FrameCels RawPixels)) (frame : Nat)
    (c1 c2 : RawCel RawPixels)
    (hne : c1.data.layerIndex.toNat ≠ c2.data.layerIndex.toNat) :
    (addCelRows cels frame c1 >>= fun a => addCelRows a frame c2) =
      (addCelRows cels frame c2 >>= fun a => addCelRows a frame c1) := by
  cases hrow : cels[frame]? with
  | none => simp only [addCelRows, hrow, Res.bind_err]
  | some row =>
      rw [addCelRows_some cels frame row hrow, addCelRows_some cels frame row hrow]
      -- an insert on another layer does not change whether a layer is occupied
      -- (`get?_insert_ne`): with one or both occupied, both orders fail alike; with both free
      -- the two inserts commute (`insert_comm`)
      by_cases h1 : (FrameCels.get? c1.data.layerIndex.toNat row).isSome <;>
        by_cases h2 : (FrameCels.get? c2.data.layerIndex.toNat row).isSome <;>
        simp only [h1, h2, if_true, if_false, Res.bind_ok, Res.bind_err, Bool.false_eq_true,
          addCelRows_set cels frame row _ hrow, FrameCels.get?_insert_ne _ _ _ hne,
          FrameCels.get?_insert_ne _ _ _ (Ne.symm hne), FrameCels.insert_comm _ _ c1 c2 hne row]

theorem addCel_addCel {β} (frame : Nat) (pi : ParseInfo) (a b : RawCel RawPixels)
    {K : ParseInfo → Res β} (hK : CtxBlind K) :
    (pi.addCel frame a >>= fun q => q.addCel frame b >>= K) =
      ((addCelRows pi.cels frame a >>= fun t => addCelRows t frame b) >>= fun t =>
        K { pi with cels := t }) := by
  rw [addCel_eq]
  cases addCelRows pi.cels frame a with
  | ok t =>
      simp only [Res.map_ok, Res.bind_ok]
      rw [addCel_eq]
      show (Res.map _ (addCelRows t frame b) >>= K) = _
      cases addCelRows t frame b with
      | ok t' => exact hK _ { pi with cels := t' }
      | err _ => rfl
      | panic _ => rfl
  | err _ => rfl
  | panic _ => rfl

theorem CtxBlind.items_cels {β} {frame : Nat} (l : List (RawCel RawPixels))
    {K : ParseInfo → Res β} (hK : CtxBlind K) :
    CtxBlind (fun q => Spec.runItems frame q (l.map .cel) >>= K) := by
  cases l with
  | nil => exact hK
  | cons a t =>
      exact CtxBlind.items_overwritten [] (.cel a) (t.map .cel) (fun _ h => nomatch h) rfl K

/-- cel items on pairwise distinct layers may be permuted in front of a continuation that does not
    see the context; failures (a collision with a stored cel, an invalid frame) included -/
theorem runCels_perm_blind {β} (frame : Nat) {l1 l2 : List (RawCel RawPixels)}
    (hperm : l1.Perm l2) :
    l1.Pairwise (fun a b => a.data.layerIndex.toNat ≠ b.data.layerIndex.toNat) →
    ∀ {K : ParseInfo → Res β}, CtxBlind K → ∀ (pi : ParseInfo),
      (Spec.runItems frame pi (l1.map .cel) >>= K) =
        (Spec.runItems frame pi (l2.map .cel) >>= K) := by
  induction hperm with
  | nil =>
      intro _ _ _ _
      rfl
  | cons a _ ih =>
      intro hp K hK pi
      rw [List.pairwise_cons] at hp
      simp only [List.map_cons, runItems_cons, Res.bind_assoc]
      cases Spec.stepSem frame pi (.cel a) with
      | ok q => exact ih hp.2 hK q
      | err e => rfl
      | panic s => rfl
  | swap a b l =>
      intro hp K hK pi
      have hne : b.data.layerIndex.toNat ≠ a.data.layerIndex.toNat := by
        rw [List.pairwise_cons] at hp
        exact hp.1 a List.mem_cons_self
      have hK' := CtxBlind.items_cels (frame := frame) l hK
      simp only [List.map_cons, runItems_cons, Res.bind_assoc]
      exact (addCel_addCel frame pi b a hK').trans
        ((congrArg (· >>= _) (addCelRows_swap pi.cels frame b a hne)).trans
          (addCel_addCel frame pi a b hK').symm)
  | trans h1 _ ih1 ih2 =>
      intro hp K hK pi
      have hp2 := (h1.pairwise_iff (fun {_ _} h => Ne.symm h)).mp hp
      exact (ih1 hp hK pi).trans (ih2 hp2 hK pi)

end Ase.Proofs.WholeFile
