import AseProofs.Lemmas.AttachMachine
import AseProofs.Lemmas.Decoders
import AseProofs.Lemmas.Assoc
/-
  C10, the model performs the abstract step: `processChunk` is "decode the chunk to its event
  (`decodeEv`), then `absStep`" on the projection `proj` of `ParseInfo` - for every chunk and
  every state, error and panic outcomes included.
-/
namespace Ase.Proofs.C10
open Ase Ase.Spec Ase.Proofs Ase.Proofs.C05

def proj (pi : ParseInfo) : AState :=
  { layers := pi.layers.toList.map (·.userData)
    slices := pi.slices.toList.map (·.userData)
    tags := pi.tags.map (fun ts => ts.toList.map (·.userData))
    sprite := pi.spriteUserData
    nframes := pi.cels.size
    cels := fun f l => ((pi.cels[f]?).bind (FrameCels.get? l)).map (·.userData)
    ctx := pi.ctx }

theorem frameCels_get?_nil {P} (k : Nat) : FrameCels.get? k ([] : FrameCels P) = none := rfl

theorem proj_new (n : Nat) (t : UInt16) : proj (ParseInfo.new n t) = AState.init n := by
  refine AState.ext_iff.mpr
    ⟨rfl, rfl, rfl, rfl, by simp [proj, ParseInfo.new, AState.init], fun f l => ?_, rfl⟩
  simp only [proj, ParseInfo.new, AState.init]
  by_cases h : f < n <;> simp [h, frameCels_get?_nil]

theorem setUD_proj {α} (arr : Array α) (i : Nat) (g : α → α) (ud : α → Option UserData)
    (u : UserData) (hg : ∀ a, ud (g a) = some u) :
    (setUD arr i g).map (fun a => a.toList.map ud) = setSlot (arr.toList.map ud) i u := by
  unfold setUD setSlot
  by_cases h : i < arr.size
  · simp [h, List.map_set, hg]
  · simp [h]

/-- The decoding phase of `processChunk`: the event the chunk stands for, or the decoder's
    failure.  The event-valued twin of `Machine.decodeChunk` (same arms; the decoded value is
    replaced by its event, which needs `frame`).  `palNone`: no palette has been stored yet;
    only then is a legacy palette chunk decoded (`if parse_info.palette.is_none()` in
    `parse.rs`). -/
def decodeEv (inflate : Inflate) (m : Profile) (fmt : PixelFormat) (frame : Nat) (palNone : Bool)
    (c : Chunk) : Res Ev :=
  match c.ty with
  | .colorProfile => (runChunk parseColorProfileChunk c.data).map (fun _ => .other)
  | .palette => (runChunk parsePaletteChunk c.data).map (fun _ => .other)
  | .layer => (runChunk parseLayerChunk c.data).map (fun _ => .layer)
  | .cel => (runChunk (parseCelChunk inflate fmt) c.data).map
      (fun cel => .cel frame cel.data.layerIndex.toNat)
  | .externalFiles => (runChunk parseExternalFilesChunk c.data).map (fun _ => .other)
  | .tags => (runChunk parseTagsChunk c.data).map
      (fun ts => if frame == 0 then .tags ts.length else .other)
  | .slice => (runChunk parseSliceChunk c.data).map (fun _ => .slice)
  | .userData => (runChunk parseUserDataChunk c.data).map .userData
  | .oldPalette04 =>
      if palNone then (runChunk (parseOldPaletteChunk m false) c.data).map (fun _ => .oldPalette)
      else .ok .oldPalette
  | .oldPalette11 =>
      if palNone then (runChunk (parseOldPaletteChunk m true) c.data).map (fun _ => .oldPalette)
      else .ok .oldPalette
  | .tileset => (runChunk (parseTilesetChunk inflate fmt) c.data).map (fun _ => .other)
  | .celExtra | .mask | .path => .ok .other

theorem proj_cels_set! (pi : ParseInfo) {f : Nat} {row : FrameCels RawPixels}
    (hrow : pi.cels[f]? = some row) (row' : FrameCels RawPixels) (f' l' : Nat) :
    (((pi.cels.set! f row')[f']?).bind (FrameCels.get? l')).map (·.userData) =
      if f' = f then (FrameCels.get? l' row').map (·.userData) else (proj pi).cels f' l' := by
  have hf := (Array.getElem?_eq_some_iff.mp hrow).1
  simp only [proj, Array.set!_eq_setIfInBounds, Array.getElem?_setIfInBounds, hf, if_true]
  by_cases h : f = f'
  · subst h; simp
  · simp [h, Ne.symm h]

theorem proj_cels_row (pi : ParseInfo) {f : Nat} {row : FrameCels RawPixels}
    (hrow : pi.cels[f]? = some row) (l : Nat) :
    (proj pi).cels f l = (FrameCels.get? l row).map (·.userData) := by
  simp [proj, hrow]

theorem addCel_sim (pi : ParseInfo) (frame : Nat) (cel : RawCel RawPixels)
    (hud : cel.userData = none) :
    (pi.addCel frame cel).map proj = absStep (proj pi) (.cel frame cel.data.layerIndex.toNat) := by
  unfold ParseInfo.addCel
  cases hrow : pi.cels[frame]? with
  | none =>
      have : ¬ frame < pi.cels.size := Nat.not_lt.mpr (Array.getElem?_eq_none_iff.mp hrow)
      simp [absStep, proj, this]
  | some row =>
      have hf : frame < (proj pi).nframes := (Array.getElem?_eq_some_iff.mp hrow).1
      simp only [absStep, proj_cels_row pi hrow, hf, if_true, Option.isSome_map]
      cases hget : FrameCels.get? cel.data.layerIndex.toNat row with
      | some c0 => rfl
      | none =>
          simp only [Option.isSome_none, Bool.false_eq_true, if_false, Res.map_ok, Res.ok.injEq]
          refine AState.ext_iff.mpr ⟨rfl, rfl, rfl, rfl, by simp [proj], fun f l => ?_, rfl⟩
          refine (proj_cels_set! pi hrow _ f l).trans ?_
          simp only [setCel, FrameCels.get?_insert _ _ _ hget]
          by_cases hff : f = frame <;> by_cases hl : l = cel.data.layerIndex.toNat <;>
            simp [hff, hl, hud, proj_cels_row pi hrow]

theorem addUserData_sim (pi : ParseInfo) (ud : UserData) :
    (pi.addUserData ud).map proj = absStep (proj pi) (.userData ud) := by
  unfold ParseInfo.addUserData
  simp only [absStep, show (proj pi).ctx = pi.ctx from rfl]
  cases hc : pi.ctx with
  | none => rfl
  | some c =>
      cases c with
      | layer i =>
          simp only [show (proj pi).layers = pi.layers.toList.map (·.userData) from rfl,
            ← setUD_proj pi.layers i (fun l => { l with userData := some ud }) (·.userData) ud
              fun _ => rfl]
          cases setUD pi.layers i _ <;> rfl
      | slice i =>
          simp only [show (proj pi).slices = pi.slices.toList.map (·.userData) from rfl,
            ← setUD_proj pi.slices i (fun l => { l with userData := some ud }) (·.userData) ud
              fun _ => rfl]
          cases setUD pi.slices i _ <;> rfl
      | oldPalette => rfl
      | tag i =>
          simp only [show (proj pi).tags = pi.tags.map _ from rfl]
          cases pi.tags with
          | none => rfl
          | some ts =>
              simp only [Option.map_some,
                ← setUD_proj ts i (fun t => { t with userData := some ud }) (·.userData) ud
                  fun _ => rfl]
              cases setUD ts i _ <;> rfl
      | cel f l =>
          simp only
          cases hrow : pi.cels[f]? with
          | none =>
              have : ¬ f < (proj pi).nframes := Nat.not_lt.mpr (Array.getElem?_eq_none_iff.mp hrow)
              simp [this]
          | some row =>
              have hf : f < (proj pi).nframes := (Array.getElem?_eq_some_iff.mp hrow).1
              simp only [hf, if_true, proj_cels_row pi hrow]
              cases hget : FrameCels.get? l row with
              | none => rfl
              | some c0 =>
                  simp only [Option.map_some, Res.map_ok, Res.ok.injEq]
                  refine AState.ext_iff.mpr
                    ⟨rfl, rfl, rfl, rfl, by simp [proj], fun f' l' => ?_, rfl⟩
                  refine (proj_cels_set! pi hrow _ f' l').trans ?_
                  simp only [setCel, FrameCels.get?_modify]
                  by_cases hff : f' = f <;> by_cases hl : l' = l <;>
                    simp [hff, hl, hget, proj_cels_row pi hrow]

theorem res_map_bind {α β γ} (x : Res α) (f : α → Res β) (g : β → γ) :
    (x >>= f).map g = x >>= fun a => (f a).map g := by
  cases x <;> rfl

/-- `Res.map_bind` with `.bind` written out, as on the right-hand side of `processChunk_sim` -/
theorem res_bind_map {α β γ} (x : Res α) (f : α → β) (g : β → Res γ) :
    (x.map f).bind g = x >>= fun a => g (f a) :=
  Res.map_bind x f g

/-- **C10**, simulation: `processChunk` performs exactly the abstract step of the chunk's event,
    for every chunk and every state; decoder failures, `addCel` / `addUserData` errors and the
    panic value are reproduced as they are. -/
theorem processChunk_sim (inflate : Inflate) (m : Profile) (fmt : PixelFormat) (frame : Nat)
    (pi : ParseInfo) (c : Chunk) :
    (processChunk inflate m fmt frame pi c).map proj =
      (decodeEv inflate m fmt frame pi.palette.isNone c).bind (absStep (proj pi)) := by
  obtain ⟨ty, data⟩ := c
  -- both sides become `decoder >>= continuation`; the continuations agree on decoded values
  cases ty <;> simp only [processChunk, decodeEv, res_map_bind, res_bind_map]
  case layer =>
    refine Res.bind_congr fun l hl => ?_
    have hud : l.userData = none :=
      rok_runChunk C05.parseLayerChunk_noUserData _ _ hl
    simp [absStep, proj, hud]
  case slice =>
    refine Res.bind_congr fun l hl => ?_
    have hud : l.userData = none :=
      rok_runChunk C05.parseSliceChunk_noUserData _ _ hl
    simp [absStep, proj, hud]
  case cel =>
    exact Res.bind_congr fun cel hc =>
      addCel_sim pi frame cel
        (rok_runChunk (C05.parseCelChunk_noUserData inflate fmt) _ _ hc)
  case userData => exact Res.bind_congr fun ud _ => addUserData_sim pi ud
  case tags =>
    refine Res.bind_congr fun ts hts => ?_
    split
    · simpa [absStep, proj, List.eq_replicate_iff] using
        fun t ht => (rok_runChunk C05.parseTagsChunk_tags _ _ hts t ht).2
    · rfl
  case oldPalette04 | oldPalette11 =>
    split
    · rw [res_map_bind, res_bind_map]; rfl
    · rfl
  case colorProfile | palette | externalFiles | tileset | celExtra | mask | path => rfl

end Ase.Proofs.C10
