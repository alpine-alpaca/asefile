import AseProofs.Lemmas.NoPanic
/-
  Readers that are the same program over every byte source (`Uniform`), and what holds of all
  of them: a simulation between two sources lifts to the reader (`Sim`); over plain bytes a
  successful run depends only on the prefix it consumes and fails with `UnexpectedEof` on every
  shorter one (`Strict`); over a source that never panics the reader never panics (`NP`).
-/
namespace Ase.Proofs.SrcSim
open Ase

section sim
variable {σ₁ σ₂ : Type}

/-- the first alternative lets the first run stop with an error satisfying `E` where the second
    goes on: an injected I/O error (C14) -/
def RelRes (R : σ₁ → σ₂ → Prop) (E : Err → Prop) {α : Type}
    (r₁ : Res (α × σ₁)) (r₂ : Res (α × σ₂)) : Prop :=
  (∃ e, E e ∧ r₁ = .err e) ∨
  (∃ a s t, r₁ = .ok (a, s) ∧ r₂ = .ok (a, t) ∧ R s t) ∨
  (∃ e, r₁ = .err e ∧ r₂ = .err e) ∨
  (∃ p, r₁ = .panic p ∧ r₂ = .panic p)

def Sim (R : σ₁ → σ₂ → Prop) (E : Err → Prop) {α : Type} (p : RdS σ₁ α) (q : RdS σ₂ α) : Prop :=
  ∀ s t, R s t → RelRes R E (p s) (q t)

def SimSrc (R : σ₁ → σ₂ → Prop) (E : Err → Prop) (S₁ : Src σ₁) (S₂ : Src σ₂) : Prop :=
  ∀ n, Sim R E (S₁.read n) (S₂.read n)

variable {R : σ₁ → σ₂ → Prop} {E : Err → Prop}

theorem Sim.lift {α} (r : Res α) : Sim R E (RdS.lift r : RdS σ₁ α) (RdS.lift r : RdS σ₂ α) := by
  intro s t h
  cases r with
  | ok a => exact .inr (.inl ⟨a, s, t, rfl, rfl, h⟩)
  | err e => exact .inr (.inr (.inl ⟨e, rfl, rfl⟩))
  | panic p => exact .inr (.inr (.inr ⟨p, rfl, rfl⟩))

theorem Sim.bind {α β} {x₁ : RdS σ₁ α} {x₂ : RdS σ₂ α} {f₁ : α → RdS σ₁ β} {f₂ : α → RdS σ₂ β}
    (hx : Sim R E x₁ x₂) (hf : ∀ a, Sim R E (f₁ a) (f₂ a)) :
    Sim R E (x₁ >>= f₁) (x₂ >>= f₂) := by
  intro s t hst
  rcases hx s t hst with ⟨e, he, h1⟩ | ⟨a, s', t', h1, h2, hr⟩ | ⟨e, h1, h2⟩ | ⟨p, h1, h2⟩
  · exact .inl ⟨e, he, RdS.bind_err h1⟩
  · rw [RdS.bind_ok h1, RdS.bind_ok h2]
    exact hf a s' t' hr
  · exact .inr (.inr (.inl ⟨e, RdS.bind_err h1, RdS.bind_err h2⟩))
  · exact .inr (.inr (.inr ⟨p, RdS.bind_panic h1, RdS.bind_panic h2⟩))

theorem RelRes.map_fst {α} {r₁ : Res (α × σ₁)} {r₂ : Res (α × σ₂)} (h : RelRes R E r₁ r₂) :
    (∃ e, E e ∧ r₁.map (·.1) = .err e) ∨ r₁.map (·.1) = r₂.map (·.1) := by
  rcases h with ⟨e, he, h1⟩ | ⟨a, s, t, h1, h2, _⟩ | ⟨e, h1, h2⟩ | ⟨p, h1, h2⟩
  · exact .inl ⟨e, he, by rw [h1]; rfl⟩
  · exact .inr (by rw [h1, h2]; rfl)
  · exact .inr (by rw [h1, h2]; rfl)
  · exact .inr (by rw [h1, h2]; rfl)

end sim

section strict

/-- Over plain bytes: a successful run consumed a prefix `used` of its input, gives the same
    result whatever follows `used`, and fails with `UnexpectedEof` on every proper prefix of it. -/
def Strict {α : Type} (p : Rd α) : Prop :=
  ∀ bs a rest, p bs = .ok (a, rest) →
    ∃ used, bs = used ++ rest ∧ (∀ tl, p (used ++ tl) = .ok (a, tl)) ∧
      ∀ k, k < used.length → p (used.take k) = .err (.io .unexpectedEof)

theorem Strict.length_le {α} {p : Rd α} (hp : Strict p) {bs rest : Bytes} {a : α}
    (h : p bs = .ok (a, rest)) : rest.length ≤ bs.length := by
  obtain ⟨used, rfl, _, _⟩ := hp bs a rest h
  exact List.length_append ▸ Nat.le_add_left _ _

theorem Strict.lift {α} (r : Res α) : Strict (RdS.lift r : Rd α) := by
  intro bs a rest h
  obtain ⟨rfl, rfl⟩ := RdS.lift_eq_ok h
  exact ⟨[], rfl, fun tl => rfl, fun k hk => absurd hk (Nat.not_lt_zero k)⟩

theorem Strict.bind {α β} {x : Rd α} {f : α → Rd β} (hx : Strict x) (hf : ∀ a, Strict (f a)) :
    Strict (x >>= f) := by
  intro bs b rest h
  obtain ⟨a, mid, hxb, h⟩ := RdS.bind_eq_ok h
  obtain ⟨u1, hbs, hx1, hx2⟩ := hx bs a mid hxb
  obtain ⟨u2, hmid, hf1, hf2⟩ := hf a mid b rest h
  refine ⟨u1 ++ u2, by rw [hbs, hmid, List.append_assoc], ?_, ?_⟩
  · intro tl
    rw [List.append_assoc, RdS.bind_ok (hx1 _)]
    exact hf1 tl
  · intro k hk
    rw [List.take_append]
    by_cases hk1 : k < u1.length
    · rw [Nat.sub_eq_zero_of_le (Nat.le_of_lt hk1), List.take_zero, List.append_nil]
      exact RdS.bind_err (hx2 k hk1)
    · rw [List.take_of_length_le (Nat.le_of_not_lt hk1), RdS.bind_ok (hx1 _)]
      apply hf2
      rw [List.length_append] at hk
      omega

theorem strict_read (n : Nat) : Strict (bytesSrc.read n) := by
  intro bs a rest h
  change bytesRead n bs = _ at h
  unfold bytesRead at h
  split at h
  · cases h
    have hl : (bs.take n).length = n := List.length_take_of_le ‹_›
    refine ⟨bs.take n, (List.take_append_drop n bs).symm, fun tl => ?_, fun k hk => ?_⟩
    · show bytesRead n _ = _
      rw [bytesRead, if_pos (by rw [List.length_append, hl]; exact Nat.le_add_right ..),
        List.take_left' hl, List.drop_left' hl]
    · exact if_neg (by rw [List.length_take]; omega)
  · cases h

end strict

/-- `safe` is the condition under which the lifted results are known not to panic: `np` needs
    `Uniform True`; `Uniform False` claims nothing of them and is what `sim` and `strict` take
    (`parseFrame` lifts the state machine, whose panic-freedom needs an invariant). -/
inductive Uniform (safe : Prop) : {α : Type} → (∀ σ, Src σ → RdS σ α) → Prop
  | lift {α} {r : Res α} : (safe → Res.NoPanic r) → Uniform safe fun _ _ => RdS.lift r
  | read (n : Nat) : Uniform safe fun _ S => S.read n
  | bind {α β} {x : ∀ σ, Src σ → RdS σ α} {f : α → ∀ σ, Src σ → RdS σ β} :
      Uniform safe x → (∀ a, Uniform safe (f a)) →
        Uniform safe fun σ S => x σ S >>= fun a => f a σ S

namespace Uniform
variable {safe : Prop} {α : Type} {p q : ∀ σ, Src σ → RdS σ α}

theorem pure (a : α) : Uniform safe fun _ _ => (Pure.pure a : RdS _ α) :=
  lift fun _ => Res.noPanic_ok a

theorem fail (e : Err) : Uniform safe fun _ _ => (RdS.fail e : RdS _ α) :=
  lift fun _ => Res.noPanic_err e

theorem any (r : Res α) : Uniform False fun _ _ => RdS.lift r := lift False.elim

theorem ite (c : Prop) [Decidable c] (hp : Uniform safe p) (hq : Uniform safe q) :
    Uniform safe fun σ S => if c then p σ S else q σ S := by
  split <;> assumption

theorem sim {σ₁ σ₂} {R : σ₁ → σ₂ → Prop} {E : Err → Prop} {S₁ : Src σ₁} {S₂ : Src σ₂}
    (h : Uniform False p) (hS : SimSrc R E S₁ S₂) : Sim R E (p _ S₁) (p _ S₂) := by
  induction h with
  | lift _ => exact Sim.lift _
  | read n => exact hS n
  | bind _ _ ihx ihf => exact Sim.bind ihx ihf

theorem strict (h : Uniform False p) : Strict (p _ bytesSrc) := by
  induction h with
  | lift _ => exact Strict.lift _
  | read n => exact strict_read n
  | bind _ _ ihx ihf => exact Strict.bind ihx ihf

open C04 in
theorem np {σ} {S : Src σ} (h : Uniform True p) (hS : SrcNP S) : NP (p _ S) := by
  induction h with
  | lift hr => exact NP_lift (hr trivial)
  | read n => exact hS n
  | bind _ _ ihx ihf => exact NP_bind ihx ihf

end Uniform

variable {safe : Prop}

theorem uniform_readN (n : Nat) : Uniform safe fun _ S => readN S n := .read n
theorem uniform_readU8 : Uniform safe fun _ S => readU8 S := .bind (.read 1) fun _ => .pure _
theorem uniform_readU16 : Uniform safe fun _ S => readU16 S := .bind (.read 2) fun _ => .pure _
theorem uniform_readI16 : Uniform safe fun _ S => readI16 S :=
  .bind uniform_readU16 fun _ => .pure _
theorem uniform_readU32 : Uniform safe fun _ S => readU32 S := .bind (.read 4) fun _ => .pure _
theorem uniform_readI32 : Uniform safe fun _ S => readI32 S :=
  .bind uniform_readU32 fun _ => .pure _
theorem uniform_skip (n : Nat) : Uniform safe fun _ S => skip S n :=
  .bind (.read n) fun _ => .pure _
theorem uniform_readString : Uniform safe fun _ S => readString S :=
  .bind uniform_readU16 fun _ => .bind (.read _) fun _ => .ite _ (.pure _) (.fail _)

theorem uniform_readHeader : Uniform safe fun _ S => readHeader S := by
  unfold readHeader
  exact .bind uniform_readU32 fun _ =>
    .bind uniform_readU16 fun _ =>
    .ite _ (.fail _) <|
    .bind uniform_readU16 fun _ =>
    .bind uniform_readU16 fun _ =>
    .bind uniform_readU16 fun _ =>
    .bind uniform_readU16 fun _ =>
    .bind uniform_readU32 fun _ =>
    .bind uniform_readU16 fun _ =>
    .bind uniform_readU32 fun _ =>
    .bind uniform_readU32 fun _ =>
    .bind uniform_readU8 fun _ =>
    .bind uniform_readU8 fun _ =>
    .bind uniform_readU16 fun _ =>
    .bind uniform_readU16 fun _ =>
    .bind uniform_readU8 fun _ =>
    .bind uniform_readU8 fun _ =>
    .bind uniform_readI16 fun _ =>
    .bind uniform_readI16 fun _ =>
    .bind uniform_readU16 fun _ =>
    .bind uniform_readU16 fun _ =>
    .bind (uniform_skip _) fun _ =>
    .pure _

theorem uniform_readFrameHeader : Uniform safe fun _ S => readFrameHeader S := by
  unfold readFrameHeader
  exact .bind uniform_readU32 fun _ =>
    .bind uniform_readU16 fun _ =>
    .ite _ (.fail _) <|
    .bind uniform_readU16 fun _ =>
    .bind uniform_readU16 fun _ =>
    .bind uniform_readU16 fun _ =>
    .bind uniform_readU32 fun _ =>
    .pure _

theorem uniform_readChunk (avail : Int) : Uniform safe fun _ S => readChunk S avail := by
  unfold readChunk
  exact .bind uniform_readU32 fun _ =>
    .bind uniform_readU16 fun _ =>
    .bind (.lift fun _ => C04.noPanic_parseChunkType _) fun _ =>
    .ite _ (.fail _) <|
    .ite _ (.fail _) <|
    .bind (uniform_readN _) fun _ =>
    .pure _

theorem uniform_readChunks :
    ∀ (n : Nat) (avail : Int), Uniform safe fun _ S => readChunks S n avail
  | 0, _ => .pure _
  | n + 1, _ =>
      .bind (uniform_readChunk _) fun (_, _) => .bind (uniform_readChunks n _) fun _ => .pure _

theorem uniform_parseFrame (inflate : Inflate) (m : Profile) (fmt : PixelFormat) (frame : Nat)
    (pi : ParseInfo) : Uniform False fun _ S => parseFrame S inflate m fmt frame pi :=
  .bind uniform_readFrameHeader fun _ => .bind (uniform_readChunks _ _) fun _ => .any _

theorem uniform_parseFrames (inflate : Inflate) (m : Profile) (fmt : PixelFormat) :
    ∀ (n frame : Nat) (pi : ParseInfo),
      Uniform False fun _ S => parseFrames S inflate m fmt n frame pi
  | 0, _, _ => .pure _
  | n + 1, _, _ =>
      .bind (uniform_parseFrame ..) fun _ => uniform_parseFrames inflate m fmt n _ _

theorem uniform_parseFile (inflate : Inflate) (m : Profile) :
    Uniform False fun _ S => parseFile S inflate m :=
  .bind uniform_readHeader fun _ => .ite _ (.fail _) <|
    .bind (.any _) fun _ => .bind (uniform_parseFrames ..) fun _ => .any _

section
variable {σ₁ σ₂ : Type} {R : σ₁ → σ₂ → Prop} {E : Err → Prop} {S₁ : Src σ₁} {S₂ : Src σ₂}

theorem sim_readI32 (h : SimSrc R E S₁ S₂) : Sim R E (readI32 S₁) (readI32 S₂) :=
  uniform_readI32.sim h

theorem sim_readString (h : SimSrc R E S₁ S₂) : Sim R E (readString S₁) (readString S₂) :=
  uniform_readString.sim h

/-- **C14**, the lemma behind it: a simulation between two byte sources lifts to loading, since
    `parseFile` touches its source only through `read` (`uniform_parseFile`). -/
theorem sim_parseFile (h : SimSrc R E S₁ S₂) (inflate : Inflate) (m : Profile) :
    Sim R E (parseFile S₁ inflate m) (parseFile S₂ inflate m) :=
  (uniform_parseFile inflate m).sim h

end

theorem strict_readN (n : Nat) : Strict (readN bytesSrc n) := strict_read n
theorem strict_readU8 : Strict (readU8 bytesSrc) := uniform_readU8.strict
theorem strict_readU16 : Strict (readU16 bytesSrc) := uniform_readU16.strict
theorem strict_readI16 : Strict (readI16 bytesSrc) := uniform_readI16.strict
theorem strict_readU32 : Strict (readU32 bytesSrc) := uniform_readU32.strict
theorem strict_readI32 : Strict (readI32 bytesSrc) := uniform_readI32.strict
theorem strict_skip (n : Nat) : Strict (skip bytesSrc n) := (uniform_skip n).strict
theorem strict_readString : Strict (readString bytesSrc) := uniform_readString.strict
theorem strict_readHeader : Strict (readHeader bytesSrc) := uniform_readHeader.strict
theorem strict_readFrameHeader : Strict (readFrameHeader bytesSrc) :=
  uniform_readFrameHeader.strict

/-- **C13**, the lemma behind it: loading is `Strict`, being built from `read_exact` alone
    (`uniform_parseFile`); `C13.truncated_rejected` and `C13.trailing_irrelevant` are its two halves. -/
theorem strict_parseFile (inflate : Inflate) (m : Profile) :
    Strict (parseFile bytesSrc inflate m) :=
  (uniform_parseFile inflate m).strict

end Ase.Proofs.SrcSim
