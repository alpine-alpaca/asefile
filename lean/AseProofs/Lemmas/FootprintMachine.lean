import AseProofs.Lemmas.Decoders
import AseProofs.Lemmas.Machine
/-
  C12, the `ParseInfo` state machine against the allocation account `Alloc.framesCost`: one
  decoded item, one chunk, the chunks of a frame, the frames of a file.  From `processChunks_footprint`
  on the statements are about `footprintParseV` (with the `parents` entries counted).
-/
namespace Ase.Proofs.C12
open Ase Ase.Footprint Ase.Proofs.Machine

theorem sumBy_addExtFiles : ∀ (fs : List ExternalFile) (m : List (Nat × ExternalFile)),
    sumBy (fun p => extFileSize p.2) (addExtFiles m fs)
      ≤ sumBy (fun p => extFileSize p.2) m + sumBy extFileSize fs
  | [], m => Nat.le_refl _
  | f :: t, m => by
      have h1 := sumBy_addExtFiles t (assocInsert f.id.toNat f m)
      have h2 := sumBy_assocInsert extFileSize f.id.toNat f m
      simp only [addExtFiles, sumBy_cons]
      omega

theorem sumBy_frameInsert {P} (g : RawCel P → Nat) (k : Nat) (c : RawCel P) :
    ∀ row : FrameCels P,
      sumBy (fun p => g p.2) (FrameCels.insert k c row) = sumBy (fun p => g p.2) row + g c
  | [] => (Nat.zero_add _).symm
  | (k', c') :: t => by
      have := sumBy_frameInsert g k c t
      simp only [FrameCels.insert]
      split <;> simp only [sumBy_cons] <;> omega

theorem sumBy_frameModify_le {P} (g : RawCel P → Nat) (k : Nat) (f : RawCel P → RawCel P)
    (d : Nat) (hf : ∀ c, g (f c) ≤ g c + d) :
    ∀ row : FrameCels P,
      sumBy (fun p => g p.2) (FrameCels.modify k f row) ≤ sumBy (fun p => g p.2) row + d
  | [] => Nat.le_add_right _ _
  | (k', c') :: t => by
      have := sumBy_frameModify_le g k f d hf t
      have := hf c'
      simp only [FrameCels.modify]
      split <;> simp only [sumBy_cons] <;> omega

theorem celsSize_set! {cels : Array (FrameCels RawPixels)} {f : Nat} {row : FrameCels RawPixels}
    (hrow : cels[f]? = some row) (row' : FrameCels RawPixels) :
    celsSize rawPayload (cels.set! f row') + sumBy (fun p => celSize rawPayload p.2) row =
      celsSize rawPayload cels + sumBy (fun p => celSize rawPayload p.2) row' := by
  have := sumBy_set! (rowSize rawPayload) cels f row row' hrow
  simp only [celsSize, rowSize] at this ⊢
  omega

theorem stepSem_footprint {frame : Nat} {pi pi' : ParseInfo} {it : Spec.SItem}
    (h : Spec.stepSem frame pi it = .ok pi') :
    footprintParseV pi' ≤ footprintParseV pi + itemSize it ∧
      pi.layers.size ≤ pi'.layers.size := by
  cases it with
  | layer l =>
      cases h
      simp only [footprintParseV, footprintParse, parentsSize, sumBy_push, Array.size_push,
        itemSize]
      omega
  | cel cel =>
      obtain ⟨row, hrow, _, rfl⟩ := addCel_eq_ok h
      have := celsSize_set! hrow (FrameCels.insert cel.data.layerIndex.toNat cel row)
      have := sumBy_frameInsert (celSize rawPayload) cel.data.layerIndex.toNat cel row
      simp only [footprintParseV, footprintParse, itemSize]
      omega
  | tags ts =>
      rw [WholeFile.stepSem_tags] at h
      cases h
      simp only [footprintParseV, footprintParse, itemSize]
      split <;> simp only [optTagsSize] <;> omega
  | slice s =>
      cases h
      simp only [footprintParseV, footprintParse, sumBy_push, itemSize]
      omega
  | palette p =>
      cases h
      simp only [footprintParseV, footprintParse, optPaletteSize, itemSize]
      omega
  | oldPalette p =>
      rw [WholeFile.stepSem_oldPalette] at h
      cases h
      simp only [footprintParseV, footprintParse, itemSize]
      split <;> simp only [optPaletteSize] <;> omega
  | userData ud =>
      simp only [itemSize]
      cases addUserData_eq_ok h with
      | @cel f l row c _ hrow _ =>
          have := celsSize_set! hrow
            (FrameCels.modify l (fun c => { c with userData := some ud }) row)
          have hc : ∀ c : RawCel RawPixels, celSize rawPayload { c with userData := some ud } ≤
              celSize rawPayload c + udSize (some ud) := fun c => by
            simp only [celSize]
            omega
          have := sumBy_frameModify_le (celSize rawPayload) l
            (fun c => { c with userData := some ud }) (udSize (some ud)) hc row
          simp only [footprintParseV, footprintParse]
          omega
      | @layer i a _ ha =>
          have := sumBy_set! layerSize pi.layers i a { a with userData := some ud } ha
          simp only [footprintParseV, footprintParse, layerSize, Array.set!_eq_setIfInBounds,
            Array.size_setIfInBounds] at *
          omega
      | sprite _ =>
          simp only [footprintParseV, footprintParse]
          omega
      | @tag i tags a _ htags ha =>
          have := sumBy_set! tagSize tags i a { a with userData := some ud } ha
          simp only [footprintParseV, footprintParse, htags, optTagsSize, tagSize] at *
          omega
      | @slice i a _ ha =>
          have := sumBy_set! sliceSize pi.slices i a { a with userData := some ud } ha
          simp only [footprintParseV, footprintParse, sliceSize] at *
          omega
  | extFiles fs =>
      cases h
      have := sumBy_addExtFiles fs pi.extFiles
      simp only [footprintParseV, footprintParse, itemSize]
      omega
  | tileset t =>
      cases h
      have := sumBy_assocInsert (tilesetSize rawPayload) t.id.toNat t pi.tilesets
      simp only [footprintParseV, footprintParse, itemSize]
      omega
  | noop =>
      cases h
      exact ⟨Nat.le_refl _, Nat.le_refl _⟩

/-- the second conjunct is what turns this into the `footprintParse` form: a layer never goes,
    so its `parents` entry stays counted -/
theorem processChunk_footprintV {inflate : Inflate} (hexp : Alloc.ExpansionBounded inflate)
    {m : Profile} {fmt : PixelFormat} {frame : Nat} {pi pi' : ParseInfo} {c : Chunk}
    (h : processChunk inflate m fmt frame pi c = .ok pi') :
    footprintParseV pi' ≤ footprintParseV pi + Alloc.chunkCost c ∧
      pi.layers.size ≤ pi'.layers.size := by
  obtain ⟨it, hd, hs⟩ := processChunk_eq_ok h
  have := ((decodeChunk_spec inflate m fmt _ c).of_ok hd).2 hexp
  obtain ⟨h1, h2⟩ := stepSem_footprint hs
  exact ⟨by omega, h2⟩

/-- registered end result of C12, one chunk: `processChunk_footprintV` in terms of
    `footprintParse` -/
theorem processChunk_footprint (inflate : Inflate) (hexp : Alloc.ExpansionBounded inflate)
    (m : Profile) (fmt : PixelFormat) (frame : Nat) (pi pi' : ParseInfo) (c : Chunk)
    (h : processChunk inflate m fmt frame pi c = .ok pi') :
    footprintParse pi' ≤ footprintParse pi + Alloc.chunkCost c := by
  obtain ⟨h1, h2⟩ := processChunk_footprintV hexp h
  simp only [footprintParseV, parentsSize] at h1
  omega

theorem processChunks_footprint (inflate : Inflate) (hexp : Alloc.ExpansionBounded inflate)
    (m : Profile) (fmt : PixelFormat) (frame : Nat) :
    ∀ (cs : List Chunk) (pi pi' : ParseInfo),
      processChunks inflate m fmt frame pi cs = .ok pi' →
      footprintParseV pi' ≤ footprintParseV pi + (cs.map Alloc.chunkCost).sum
  | [], pi, pi', h => by
      cases h
      exact Nat.le_refl _
  | c :: cs, pi, pi', h => by
      obtain ⟨pi1, hp, h⟩ := processChunks_cons_eq_ok h
      have h1 := (processChunk_footprintV hexp hp).1
      have h2 := processChunks_footprint inflate hexp m fmt frame cs pi1 pi' h
      simp only [List.map_cons, List.sum_cons]
      omega

theorem readChunksPartial_of_ok : ∀ (n : Nat) (avail : Int) (bs : Bytes) (cs : List Chunk)
    (rest : Bytes), readChunks bytesSrc n avail bs = .ok (cs, rest) →
    Alloc.readChunksPartial n avail bs = (cs, rest) ∧ cs.length = n
  | 0, _, _, _, _, h => by cases h; exact ⟨rfl, rfl⟩
  | n + 1, avail, bs, cs, rest, h => by
      unfold readChunks at h
      obtain ⟨⟨c, avail'⟩, s1, h1, h2⟩ := RdS.bind_eq_ok h
      obtain ⟨cs', s2, h3, h4⟩ := RdS.bind_eq_ok h2
      cases h4
      obtain ⟨h5, rfl⟩ := readChunksPartial_of_ok n avail' s1 cs' rest h3
      simp only [Alloc.readChunksPartial, h1, h5, List.length_cons, and_self]

theorem framesCost_mono : ∀ (k n : Nat) (bs : Bytes), k ≤ n →
    Alloc.framesCost k bs ≤ Alloc.framesCost n bs
  | 0, _, _, _ => Nat.zero_le _
  | k + 1, n + 1, bs, hkn => by
      unfold Alloc.framesCost
      split
      · rename_i fh rest hh
        generalize Alloc.readChunksPartial fh.numChunks ((fh.numBytes.toNat : Int) - 16) rest = r
        dsimp only
        split
        · have := framesCost_mono k n r.2 (by omega)
          omega
        · omega
      · omega

theorem framesCost_succ_of_ok {bs r3 r4 : Bytes} {fh : FrameHeader} {cs : List Chunk}
    (hfh : readFrameHeader bytesSrc bs = .ok (fh, r3))
    (hcs : readChunks bytesSrc fh.numChunks ((fh.numBytes.toNat : Int) - 16) r3 = .ok (cs, r4))
    (n : Nat) :
    Alloc.framesCost (n + 1) bs = (cs.map Alloc.chunkCost).sum + Alloc.framesCost n r4 := by
  obtain ⟨h6, h7⟩ := readChunksPartial_of_ok _ _ _ _ _ hcs
  rw [Alloc.framesCost]
  simp only [hfh, h6, h7, beq_self_eq_true, if_true]

theorem footprintParseV_setFrameTime (pi : ParseInfo) (frame : Nat) (d : UInt16) :
    footprintParseV { pi with frameTimes := pi.frameTimes.set! frame d } = footprintParseV pi := by
  simp only [footprintParseV, footprintParse, Array.set!_eq_setIfInBounds,
    Array.size_setIfInBounds]

theorem parseFrame_footprint {inflate : Inflate} (hexp : Alloc.ExpansionBounded inflate)
    {m : Profile} {fmt : PixelFormat} {frame : Nat} {pi pi' : ParseInfo} {bs rest : Bytes}
    (h : parseFrame bytesSrc inflate m fmt frame pi bs = .ok (pi', rest)) (n : Nat) :
    footprintParseV pi' + Alloc.framesCost n rest ≤
      footprintParseV pi + Alloc.framesCost (n + 1) bs := by
  obtain ⟨fh, s1, cs, h1, h3, h5⟩ := parseFrame_eq_ok h
  have h8 := processChunks_footprint inflate hexp m fmt frame cs _ pi' h5
  rw [footprintParseV_setFrameTime] at h8
  have h10 := framesCost_succ_of_ok h1 h3 n
  omega

/-- with the account of what is left (`framesCost n rest`) on both sides: the form the
    induction and the invariant `footprintParseV_le_reserved` need -/
theorem parseFrames_footprint_cont (inflate : Inflate) (hexp : Alloc.ExpansionBounded inflate)
    (m : Profile) (fmt : PixelFormat) :
    ∀ (k frame : Nat) (pi pi' : ParseInfo) (bs rest : Bytes),
      parseFrames bytesSrc inflate m fmt k frame pi bs = .ok (pi', rest) → ∀ n,
      footprintParseV pi' + Alloc.framesCost n rest
        ≤ footprintParseV pi + Alloc.framesCost (k + n) bs
  | 0, _, _, _, _, _, h, n => by
      cases h
      rw [Nat.zero_add]
      exact Nat.le_refl _
  | k + 1, frame, pi, pi', bs, rest, h, n => by
      obtain ⟨pi1, s1, h1, h2⟩ := parseFrames_succ_eq_ok h
      have h3 := parseFrame_footprint hexp h1 (k + n)
      have h4 := parseFrames_footprint_cont inflate hexp m fmt k (frame + 1) pi1 pi' s1 rest h2 n
      rw [Nat.add_right_comm]
      omega

end Ase.Proofs.C12
