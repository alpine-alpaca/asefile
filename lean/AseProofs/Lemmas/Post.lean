import Ase.Parse
/-
  Partial correctness for results and readers (`ROk`, `Post`): a delivered value satisfies `Q`.
  Nothing is claimed about panics, so no hypothesis on the `inflate` parameter is needed.
-/
namespace Ase.Proofs.C05
open Ase

def ROk {α} (Q : α → Prop) (r : Res α) : Prop := ∀ a, r = .ok a → Q a

theorem ROk.bind_any {α β} {Q : β → Prop} {x : Res α} {f : α → Res β}
    (hf : ∀ a, x = .ok a → ROk Q (f a)) : ROk Q (x >>= f) := by
  intro b h
  obtain ⟨a, ha, hb⟩ := Res.bind_eq_ok h
  exact hf a ha b hb

theorem ROk.bind {α β} {P : α → Prop} {Q : β → Prop} {x : Res α} {f : α → Res β}
    (hx : ROk P x) (hf : ∀ a, P a → ROk Q (f a)) : ROk Q (x >>= f) :=
  ROk.bind_any fun a ha => hf a (hx a ha)

theorem ROk.map {α β} {Q : β → Prop} {x : Res α} (f : α → β)
    (hx : ROk (fun a => Q (f a)) x) : ROk Q (x.map f) := by
  intro b h
  obtain ⟨a, ha, rfl⟩ := Res.map_eq_ok h
  exact hx a ha

theorem rok_ok {α} {Q : α → Prop} {a : α} (h : Q a) : ROk Q (.ok a) := by
  intro b hb; cases hb; exact h
theorem rok_err {α} {Q : α → Prop} (e : Err) : ROk Q (.err e : Res α) := by
  intro b hb; cases hb
theorem rok_panic {α} {Q : α → Prop} (s : Site) : ROk Q (.panic s : Res α) := by
  intro b hb; cases hb

def Post {σ α} (Q : α → Prop) (x : RdS σ α) : Prop := ∀ s a s', x s = .ok (a, s') → Q a

theorem Post_pure {σ α} {Q : α → Prop} {a : α} (h : Q a) : Post Q (pure a : RdS σ α) := by
  intro s b s' hb; cases hb; exact h

theorem Post_fail {σ α} {Q : α → Prop} (e : Err) : Post Q (RdS.fail e : RdS σ α) := by
  intro s b s' hb; cases hb

theorem Post_lift {σ α} {Q : α → Prop} {r : Res α} (h : ROk Q r) :
    Post Q (RdS.lift r : RdS σ α) :=
  fun _ a _ hb => h a (RdS.lift_eq_ok hb).1

theorem Post_bind {σ α β} {P : α → Prop} {Q : β → Prop} {x : RdS σ α} {f : α → RdS σ β}
    (hx : Post P x) (hf : ∀ a, P a → Post Q (f a)) : Post Q (x >>= f) := by
  intro s b s' hb
  obtain ⟨a, s1, h1, h2⟩ := RdS.bind_eq_ok hb
  exact hf a (hx s a s1 h1) s1 b s' h2

theorem Post_true {σ α} (x : RdS σ α) : Post (fun _ => True) x := fun _ _ _ _ => trivial

theorem Post_bind_any {σ α β} {Q : β → Prop} {x : RdS σ α} {f : α → RdS σ β}
    (hf : ∀ a, Post Q (f a)) : Post Q (x >>= f) :=
  Post_bind (Post_true x) fun a _ => hf a

/-- `do let a ← if c then p else q; f a` elaborates to `if c then p >>= f else q >>= f` -/
theorem Post_ite_bind {σ α β} {P : α → Prop} {Q : β → Prop} (c : Prop) [Decidable c]
    {x y : RdS σ α} {f : α → RdS σ β} (hx : c → Post P x) (hy : ¬ c → Post P y)
    (hf : ∀ a, P a → Post Q (f a)) : Post Q (if c then x >>= f else y >>= f) := by
  split
  · exact Post_bind (hx ‹_›) hf
  · exact Post_bind (hy ‹_›) hf

theorem rok_runChunk {α} {Q : α → Prop} {p : Rd α} (hp : Post Q p) (data : Bytes) :
    ROk Q (runChunk p data) := by
  intro a h
  obtain ⟨r, hr⟩ := runChunk_eq_ok h
  exact hp data a r hr

end Ase.Proofs.C05
