import AseProofs.Lemmas.Attach
import AseProofs.Lemmas.SimpAttr
import Ase.Parse
/-
  C10, the abstract state machine: the part of `ParseInfo` that user-data attachment touches,
  with the step `absStep` that `processChunk` performs on it for each event.  The state after a
  run has a closed form in terms of the declarative spec (`specState`); `Inv` says the same field
  by field.
-/
namespace Ase.Proofs.C10
open Ase Ase.Spec

structure AState where
  /-- user-data slot of each layer, in file order -/
  layers : List (Option UserData)
  slices : List (Option UserData)
  /-- `none`: no tags chunk seen -/
  tags : Option (List (Option UserData))
  sprite : Option UserData
  nframes : Nat
  /-- `cels f l = none`: no such cel; `some slot`: the cel's user-data slot -/
  cels : Nat → Nat → Option (Option UserData)
  ctx : Option UDCtx

def AState.init (nf : Nat) : AState :=
  { layers := [], slices := [], tags := none, sprite := none, nframes := nf,
    cels := fun _ _ => none, ctx := none }

def setCel (cels : Nat → Nat → Option (Option UserData)) (f l : Nat)
    (v : Option (Option UserData)) : Nat → Nat → Option (Option UserData) :=
  fun f' l' => if f' = f ∧ l' = l then v else cels f' l'

/-- `setUD` on a list of slots -/
def setSlot (xs : List (Option UserData)) (i : Nat) (u : UserData) :
    Option (List (Option UserData)) :=
  if i < xs.length then some (xs.set i (some u)) else none

/-- the effect of one event on the abstract state: `add_layer`, `add_cel`, `add_slice`, `add_tags`,
    `add_user_data` of `parse.rs`, with their failure values -/
def absStep (s : AState) : Ev → Res AState
  | .layer => .ok { s with layers := s.layers ++ [none], ctx := some (.layer s.layers.length) }
  | .cel f l =>
      if f < s.nframes then
        if (s.cels f l).isSome then .err .invalid
        else .ok { s with cels := setCel s.cels f l (some none), ctx := some (.cel f l) }
      else .err .invalid
  | .slice => .ok { s with slices := s.slices ++ [none], ctx := some (.slice s.slices.length) }
  | .tags n => .ok { s with tags := some (List.replicate n none), ctx := some (.tag 0) }
  | .oldPalette => .ok { s with ctx := some .oldPalette }
  | .other => .ok s
  | .userData u =>
      match s.ctx with
      | none => .err .invalid
      | some (.cel f l) =>
          if f < s.nframes then
            match s.cels f l with
            | none => .err .internal
            | some _ => .ok { s with cels := setCel s.cels f l (some (some u)) }
          else .panic .index
      | some (.layer i) =>
          match setSlot s.layers i u with
          | none => .err .internal
          | some ls => .ok { s with layers := ls }
      | some .oldPalette => .ok { s with sprite := some u }
      | some (.tag i) =>
          match s.tags with
          | none => .err .internal
          | some ts =>
              match setSlot ts i u with
              | none => .err .internal
              | some ts' => .ok { s with tags := some ts', ctx := some (.tag (i + 1)) }
      | some (.slice i) =>
          match setSlot s.slices i u with
          | none => .err .internal
          | some ss => .ok { s with slices := ss }

def absRun : AState → List Ev → Res AState
  | s, [] => .ok s
  | s, e :: es =>
      match absStep s e with
      | .ok s' => absRun s' es
      | .err x => .err x
      | .panic p => .panic p

-- `.bind`, not `>>=`: the form of `processChunk_sim`'s right-hand side, with which the frame lemmas
-- (`AttachFrames.lean`) compose these
theorem absRun_append (s : AState) (a b : List Ev) :
    absRun s (a ++ b) = (absRun s a).bind (fun s' => absRun s' b) := by
  induction a generalizing s with
  | nil => rfl
  | cons e a ih =>
      simp only [List.cons_append, absRun]
      cases absStep s e with
      | ok s' => exact ih s'
      | err x => rfl
      | panic p => rfl

theorem absRun_snoc (s : AState) (a : List Ev) (e : Ev) :
    absRun s (a ++ [e]) = (absRun s a).bind (fun s' => absStep s' e) := by
  rw [absRun_append]
  congr 1
  funext s'
  simp only [absRun]
  cases absStep s' e <;> rfl

def toCtx : Target → UDCtx
  | .layer i => .layer i
  | .cel f l => .cel f l
  | .slice i => .slice i
  | .sprite => .oldPalette
  | .tag i => .tag i

/-- `s` is the state the declarative spec describes after the events `evs` -/
structure Inv (nf : Nat) (evs : List Ev) (s : AState) : Prop where
  ctx : s.ctx = (attachTarget evs evs.length).map toCtx
  nframes : s.nframes = nf
  nlayers : s.layers.length = evs.countP Ev.isLayer
  nslices : s.slices.length = evs.countP Ev.isSlice
  layers : ∀ k, k < s.layers.length → s.layers[k]? = some (attached evs (.layer k))
  slices : ∀ k, k < s.slices.length → s.slices[k]? = some (attached evs (.slice k))
  sprite : s.sprite = attached evs .sprite
  cels : ∀ f l, s.cels f l = if Ev.cel f l ∈ evs then some (attached evs (.cel f l)) else none
  celFrames : ∀ f l, Ev.cel f l ∈ evs → f < nf
  tags : match lastTags evs with
    | none => s.tags = none
    | some (j, n) => ∃ ts, s.tags = some ts ∧ ts.length = n ∧
        ∀ k, k < n → ts[k]? = some (attachedSince evs j (.tag k))

theorem AState.ext_iff {a b : AState} : a = b ↔
    a.layers = b.layers ∧ a.slices = b.slices ∧ a.tags = b.tags ∧ a.sprite = b.sprite ∧
    a.nframes = b.nframes ∧ (∀ f l, a.cels f l = b.cels f l) ∧ a.ctx = b.ctx := by
  refine ⟨fun h => by subst h; simp, fun ⟨h1, h2, h3, h4, h5, h6, h7⟩ => ?_⟩
  cases a; cases b
  simp only [AState.mk.injEq]
  exact ⟨h1, h2, h3, h4, h5, funext (fun f => funext (fun l => h6 f l)), h7⟩

/-- the same in closed form: `Inv nf evs s` says `s = specState nf evs` field by field
    (`inv_specState`) -/
def specState (nf : Nat) (evs : List Ev) : AState where
  layers := (List.range (evs.countP Ev.isLayer)).map fun k => attached evs (.layer k)
  slices := (List.range (evs.countP Ev.isSlice)).map fun k => attached evs (.slice k)
  tags := (lastTags evs).map fun p => (List.range p.2).map fun k => attachedSince evs p.1 (.tag k)
  sprite := attached evs .sprite
  nframes := nf
  cels := fun f l => if Ev.cel f l ∈ evs then some (attached evs (.cel f l)) else none
  ctx := (attachTarget evs evs.length).map toCtx

theorem getElem?_map_range {α} (g : Nat → α) {n k : Nat} (h : k < n) :
    ((List.range n).map g)[k]? = some (g k) := by
  simp [h]

theorem inv_specState {nf : Nat} {evs : List Ev} (hcf : ∀ f l, Ev.cel f l ∈ evs → f < nf) :
    Inv nf evs (specState nf evs) where
  ctx := rfl
  nframes := rfl
  nlayers := by simp [specState]
  nslices := by simp [specState]
  layers := fun k hk => getElem?_map_range _ (by simpa [specState] using hk)
  slices := fun k hk => getElem?_map_range _ (by simpa [specState] using hk)
  sprite := rfl
  cels := fun _ _ => rfl
  celFrames := hcf
  tags := by
    cases h : lastTags evs with
    | none => simp [specState, h]
    | some p => exact ⟨_, by simp only [specState, h]; rfl, by simp, by intro k hk; simp [hk]⟩

theorem setSlot_some {xs ls : List (Option UserData)} {i : Nat} {u : UserData}
    (h : setSlot xs i u = some ls) : ls = xs.set i (some u) := by
  unfold setSlot at h
  split at h <;> cases h
  rfl

theorem map_range_set {α} (g : Nat → α) (n i : Nat) (v : α) :
    ((List.range n).map g).set i v = (List.range n).map fun k => if i = k then v else g k := by
  apply List.ext_getElem?
  intro k
  by_cases hk : k < n <;> by_cases hik : i = k <;> simp [hk, hik]

/- what `simp only [attach_snoc]` leaves of `s = specState nf (evs ++ [e])` is where the step
   really changes a slot -/
attribute [attach_snoc] AState.ext_iff specState attached_snoc attachedSince_snoc lastTags_snoc
  attachTarget_snoc List.countP_append List.countP_singleton List.mem_append List.mem_singleton
  List.range_succ List.map_append List.length_map List.length_range List.map_cons List.map_nil
  Ev.isLayer Ev.isSlice Ev.isCtx Ev.isUD ctxTarget toCtx bump
  if_true if_false or_false and_false and_true true_and
  Nat.add_zero Option.map_some Bool.false_eq_true implies_true Option.some.injEq
  Target.layer.injEq Target.slice.injEq Target.tag.injEq Ev.cel.injEq

theorem absStep_specState {nf : Nat} {evs : List Ev} {e : Ev} {s' : AState}
    (h : absStep (specState nf evs) e = .ok s') : s' = specState nf (evs ++ [e]) := by
  cases e with
  | layer | slice =>
      cases h
      simp only [attach_snoc, reduceCtorEq]
      -- the new slot is `none`: no earlier record can have targeted an entity that was not there
      rw [attached, attachedSince_dead _ _ _ (Nat.lt_irrefl _)]
  | oldPalette | other =>
      cases h
      simp only [attach_snoc, reduceCtorEq]
  | tags n =>
      cases h
      simp only [attach_snoc, reduceCtorEq, attachedSince_of_length_le _ _ _ (Nat.le_refl _),
        List.map_const']
  | cel f l =>
      by_cases hm : Ev.cel f l ∈ evs
      · simp [absStep, specState, hm] at h
      · by_cases hf : f < nf
        · simp only [absStep, specState, hf, hm, if_true, if_false, Option.isSome_none,
            Bool.false_eq_true, Res.ok.injEq] at h
          subst h
          simp only [attach_snoc]
          intro f' l'
          unfold setCel
          by_cases heq : f' = f ∧ l' = l
          · obtain ⟨rfl, rfl⟩ := heq
            simp [attached, attachedSince_dead evs 0 (.cel f' l') hm]
          · simp only [heq, if_false, or_false]
        · simp [absStep, specState, hf] at h
  | userData u =>
      -- the step writes `some u` into the slot of the target `t` and leaves the others, which is
      -- what `attached_snoc` says of them (`map_range_set` for a list of slots)
      cases ht : attachTarget evs evs.length with
      | none => simp [absStep, specState, ht] at h
      | some t =>
        have hctx : (specState nf evs).ctx = some (toCtx t) := by
          simp only [specState, ht, Option.map_some]
        cases t with
        | layer i | slice i =>
            simp only [absStep, hctx, toCtx] at h
            split at h <;> cases h
            rename_i hls
            cases setSlot_some hls
            simp only [attach_snoc, reduceCtorEq, ht]
            exact map_range_set ..
        | sprite =>
            simp only [absStep, hctx, toCtx, Res.ok.injEq] at h
            subst h
            simp only [attach_snoc, reduceCtorEq, ht]
        | cel f l =>
            simp only [absStep, hctx, toCtx] at h
            split at h
            · split at h <;> cases h
              simp only [attach_snoc, reduceCtorEq, ht]
              intro f' l'
              unfold setCel
              by_cases heq : f = f' ∧ l = l'
              · obtain ⟨rfl, rfl⟩ := heq
                simp [show Ev.cel f l ∈ evs from target_live _ _ ht]
              · simp [heq, show ¬(f' = f ∧ l' = l) from fun h => heq ⟨h.1.symm, h.2.symm⟩]
            · cases h
        | tag i =>
            simp only [absStep, hctx, toCtx] at h
            split at h
            · cases h
            · split at h <;> cases h
              rename_i hts _ _ hls
              cases setSlot_some hls
              simp only [attach_snoc, reduceCtorEq, ht]
              simp only [specState] at hts
              cases hlt : lastTags evs with
              | none => rw [hlt] at hts; cases hts
              | some p =>
                  rw [hlt] at hts; cases hts
                  -- the tags event lies before the end: the guard `lo ≤ length` of
                  -- `attachedSince_snoc` holds
                  simp only [Option.map_some, Nat.le_of_lt (lastTags_lt evs p.1 p.2 hlt), true_and]
                  exact congrArg some (map_range_set ..)

theorem run_specState (nf : Nat) : ∀ (evs : List Ev) (s : AState),
    absRun (AState.init nf) evs = .ok s →
      s = specState nf evs ∧ ∀ f l, Ev.cel f l ∈ evs → f < nf := by
  intro evs
  induction evs using snoc_induction with
  | nil => intro s h; cases h; exact ⟨rfl, fun _ _ h => nomatch h⟩
  | snoc evs e ih =>
      intro s h
      obtain ⟨s1, h1, h2⟩ := Res.bind_eq_ok (absRun_snoc _ evs e ▸ h)
      obtain ⟨rfl, hcf⟩ := ih s1 h1
      refine ⟨absStep_specState h2, fun f l hm => ?_⟩
      rcases List.mem_append.mp hm with hm | hm
      · exact hcf f l hm
      · cases List.mem_singleton.mp hm
        by_cases hf : f < nf
        · exact hf
        · simp [absStep, specState, hf] at h2

theorem inv_run (nf : Nat) (evs : List Ev) (s : AState)
    (h : absRun (AState.init nf) evs = .ok s) : Inv nf evs s := by
  obtain ⟨rfl, hcf⟩ := run_specState nf evs s h
  exact inv_specState hcf

/-- `NoDouble` is not needed for the run to succeed -/
theorem run_ok (nf : Nat) : ∀ (evs : List Ev), HasTarget evs → TagsBounded evs →
    CelFramesOK nf evs → CelsDistinct evs → ∃ s, absRun (AState.init nf) evs = .ok s := by
  intro evs
  induction evs using snoc_induction with
  | nil => intro _ _ _ _; exact ⟨_, rfl⟩
  | snoc evs e ih =>
      intro hT hB hF hD
      obtain ⟨s, hs⟩ := ih (hasTarget_prefix hT) (tagsBounded_prefix hB) (celFramesOK_prefix hF)
        (celsDistinct_prefix hD)
      obtain ⟨rfl, hcf⟩ := run_specState nf evs s hs
      rw [absRun_snoc, hs]
      have hlen : evs.length < (evs ++ [e]).length := by simp
      cases e with
      | cel f l =>
          have hcl : celAt (evs ++ [Ev.cel f l]) evs.length = some (f, l) := by
            simp [celAt]
          have hf : f < nf := by
            have := hF evs.length hlen
            simpa [celFrameOK, hcl] using this
          have hnot : Ev.cel f l ∉ evs := by
            intro hm
            obtain ⟨i, hi, hget⟩ := List.getElem_of_mem hm
            have hci : celAt (evs ++ [Ev.cel f l]) i = some (f, l) := by
              rw [celAt_append hi]; simp [celAt, List.getElem?_eq_getElem hi, hget]
            have := hD i (lt_length_append hi) evs.length hlen (by simp [hci]) (by rw [hci, hcl])
            omega
          simp [absStep, specState, hf, hnot]
      | userData u =>
          have hud : udAt (evs ++ [Ev.userData u]) evs.length = true := by
            simp [udAt, Ev.isUD]
          have hne := hT evs.length hlen hud
          rw [attachTarget_append (Nat.le_refl _)] at hne
          cases ht : attachTarget evs evs.length with
          | none => exact absurd ht hne
          | some t =>
              have hlive := target_live _ _ ht
              cases t with
              | layer i | slice i =>
                  simp [absStep, specState, ht, toCtx, setSlot, show i < _ from hlive]
              | sprite => simp [absStep, specState, ht, toCtx]
              | cel f l =>
                  have hm : Ev.cel f l ∈ evs := hlive
                  simp [absStep, specState, ht, toCtx, hm, hcf f l hm]
              | tag k =>
                  obtain ⟨j, n, hlt, hlim⟩ := target_tag_lastTags evs k ht
                  have hok := hB evs.length hlen hud
                  rw [tagOK_append (Nat.le_refl _)] at hok
                  have hk : k < n := by simpa [tagOK, ht, hlim] using hok
                  simp [absStep, specState, ht, toCtx, hlt, setSlot, hk]
      | _ => exact ⟨_, rfl⟩

end Ase.Proofs.C10
