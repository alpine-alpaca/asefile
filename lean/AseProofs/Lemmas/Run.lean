import Ase.Spec.Sem
/-
  Runs of `Spec.runItems` / `Spec.runFrames`, analysed three ways: one step as a bind; an update
  of the state that commutes with every step commutes with the run (`runItems_comm`); a ghost
  value that follows the state by a fold (`runFrames_rel`: with `R pi b := proj pi = b` a
  projection of the final state is a fold, with `β := Unit` an invariant holds at the end).
  `addCelRows` is `addCel` as a function of the cel table alone.  `frameTimes` is written and
  never read, so the header's default frame time does not matter.  At the end: what `validate`
  looks at in the header and which fields it copies.
-/
namespace Ase.Proofs.WholeFile
open Ase

theorem runItems_cons (frame : Nat) (pi : ParseInfo) (it : Spec.SItem) (its : List Spec.SItem) :
    Spec.runItems frame pi (it :: its) =
      (Spec.stepSem frame pi it >>= fun q => Spec.runItems frame q its) := by
  simp only [Spec.runItems]
  cases Spec.stepSem frame pi it <;> rfl

theorem runFrames_cons (frame : Nat) (pi : ParseInfo) (d : UInt16) (items : List Spec.SItem)
    (rest : List (UInt16 × List Spec.SItem)) :
    Spec.runFrames frame pi ((d, items) :: rest) =
      (Spec.runFrame frame d pi items >>= fun q => Spec.runFrames (frame + 1) q rest) := by
  simp only [Spec.runFrames]
  cases Spec.runFrame frame d pi items <;> rfl

theorem runItems_append (frame : Nat) : ∀ (a b : List Spec.SItem) (pi : ParseInfo),
    Spec.runItems frame pi (a ++ b) =
      (Spec.runItems frame pi a >>= fun pi' => Spec.runItems frame pi' b)
  | [], _, _ => rfl
  | x :: t, b, pi => by
      rw [List.cons_append, runItems_cons, runItems_cons, Res.bind_assoc]
      exact congrArg _ (funext (runItems_append frame t b))

theorem runItems_cons_eq_ok {frame : Nat} {pi pi' : ParseInfo} {it : Spec.SItem}
    {its : List Spec.SItem} (h : Spec.runItems frame pi (it :: its) = .ok pi') :
    ∃ q, Spec.stepSem frame pi it = .ok q ∧ Spec.runItems frame q its = .ok pi' := by
  rw [runItems_cons] at h
  exact Res.bind_eq_ok h

theorem runFrames_cons_eq_ok {k : Nat} {pi pi' : ParseInfo} {d : UInt16} {its : List Spec.SItem}
    {rest : List (UInt16 × List Spec.SItem)}
    (h : Spec.runFrames k pi ((d, its) :: rest) = .ok pi') :
    ∃ q, Spec.runItems k { pi with frameTimes := pi.frameTimes.set! k d } its = .ok q ∧
      Spec.runFrames (k + 1) q rest = .ok pi' := by
  rw [runFrames_cons] at h
  exact Res.bind_eq_ok h

theorem runItems_comm (f : ParseInfo → ParseInfo) (frame : Nat) : ∀ (its : List Spec.SItem),
    (∀ it ∈ its, ∀ pi, Spec.stepSem frame (f pi) it = (Spec.stepSem frame pi it).map f) →
    ∀ pi, Spec.runItems frame (f pi) its = (Spec.runItems frame pi its).map f
  | [], _, _ => rfl
  | it :: t, h, pi => by
      rw [runItems_cons, runItems_cons, h it List.mem_cons_self]
      cases Spec.stepSem frame pi it with
      | ok q => exact runItems_comm f frame t (fun y hy => h y (List.mem_cons_of_mem _ hy)) q
      | err e => rfl
      | panic s => rfl

/-- the tags step as one record: the `if` on the frame number is inside the fields -/
theorem stepSem_tags (frame : Nat) (pi : ParseInfo) (ts : List Tag) :
    Spec.stepSem frame pi (.tags ts) =
      .ok { pi with tags := if frame == 0 then some ts.toArray else pi.tags,
                    ctx := if frame == 0 then some (.tag 0) else pi.ctx } := by
  simp only [Spec.stepSem]
  split <;> rfl

/-- the legacy-palette step as one record: the `if` on the stored palette is inside the field -/
theorem stepSem_oldPalette (frame : Nat) (pi : ParseInfo) (p : Palette) :
    Spec.stepSem frame pi (.oldPalette p) =
      .ok { pi with ctx := some .oldPalette,
                    palette := if pi.palette.isNone then some p else pi.palette } := by
  simp only [Spec.stepSem]
  split <;> rfl

theorem runItems_rel {β : Type} (R : ParseInfo → β → Prop) (step : β → Spec.SItem → β)
    (frame : Nat) :
    ∀ (its : List Spec.SItem) {pi pi' : ParseInfo} {b : β},
      (∀ it ∈ its, ∀ pi pi' b, Spec.stepSem frame pi it = .ok pi' → R pi b → R pi' (step b it)) →
      Spec.runItems frame pi its = .ok pi' → R pi b → R pi' (its.foldl step b)
  | [], _, _, _, _, h, hr => by cases h; exact hr
  | it :: t, _, _, _, hstep, h, hr => by
      obtain ⟨q, hs, ht⟩ := runItems_cons_eq_ok h
      exact runItems_rel R step frame t (fun y hy => hstep y (List.mem_cons_of_mem _ hy)) ht
        (hstep it List.mem_cons_self _ _ _ hs hr)

/-- The step hypothesis must hold at every frame number from `k` on, not only the item's own: a
    relation that depends on the running frame index needs an induction of its own
    (`More.runFrames_cels`). -/
theorem runFrames_rel {β : Type} (R : ParseInfo → β → Prop) (step : β → Spec.SItem → β)
    (hft : ∀ ft pi b, R pi b → R { pi with frameTimes := ft } b) :
    ∀ (frames : List (UInt16 × List Spec.SItem)) {k : Nat} {pi pi' : ParseInfo} {b : β},
      (∀ f ∈ frames, ∀ it ∈ f.2, ∀ frame, k ≤ frame → ∀ pi pi' b,
        Spec.stepSem frame pi it = .ok pi' → R pi b → R pi' (step b it)) →
      Spec.runFrames k pi frames = .ok pi' → R pi b → R pi' ((frames.flatMap (·.2)).foldl step b)
  | [], _, _, _, _, _, h, hr => by cases h; exact hr
  | (d, its) :: rest, k, _, _, _, hstep, h, hr => by
      obtain ⟨q, hq, hrest⟩ := runFrames_cons_eq_ok h
      rw [List.flatMap_cons, List.foldl_append]
      exact runFrames_rel R step hft rest
        (fun f hf it hit frame hk =>
          hstep f (List.mem_cons_of_mem _ hf) it hit frame (Nat.le_of_succ_le hk))
        hrest (runItems_rel R step k its
          (fun it hit => hstep _ List.mem_cons_self it hit k (Nat.le_refl k)) hq (hft _ _ _ hr))

theorem runFrames_inv (P : ParseInfo → Prop) (frames : List (UInt16 × List Spec.SItem))
    {k : Nat} (hstep : ∀ f ∈ frames, ∀ it ∈ f.2, ∀ frame, k ≤ frame → ∀ pi pi',
      Spec.stepSem frame pi it = .ok pi' → P pi → P pi')
    (hft : ∀ pi ft, P pi → P { pi with frameTimes := ft })
    {pi pi' : ParseInfo}
    (h : Spec.runFrames k pi frames = .ok pi') (hp : P pi) : P pi' :=
  runFrames_rel (β := Unit) (fun pi _ => P pi) (fun b _ => b)
    (fun _ _ _ hr => hft _ _ hr) frames (b := ())
    (fun f hf it hit frame hk pi pi' _ hs hr => hstep f hf it hit frame hk pi pi' hs hr) h hp

/-- `CelsData::add_cel` on the table: the frame must exist and have no cel on that layer yet -/
def addCelRows (cels : Array (FrameCels RawPixels)) (frame : Nat) (cel : RawCel RawPixels) :
    Res (Array (FrameCels RawPixels)) :=
  match cels[frame]? with
  | none => .err .invalid
  | some row =>
      if (FrameCels.get? cel.data.layerIndex.toNat row).isSome then .err .invalid
      else .ok (cels.set! frame (FrameCels.insert cel.data.layerIndex.toNat cel row))

theorem addCel_eq (pi : ParseInfo) (frame : Nat) (cel : RawCel RawPixels) :
    pi.addCel frame cel = (addCelRows pi.cels frame cel).map (fun cels =>
      { pi with cels := cels, ctx := some (.cel frame cel.data.layerIndex.toNat) }) := by
  unfold ParseInfo.addCel addCelRows
  cases pi.cels[frame]? with
  | none => rfl
  | some row =>
      simp only
      split <;> rfl

def setFT (ft : Array UInt16) (pi : ParseInfo) : ParseInfo := { pi with frameTimes := ft }

@[simp] theorem setFT_setFT (a b : Array UInt16) (pi : ParseInfo) :
    setFT a (setFT b pi) = setFT a pi := rfl

@[simp] theorem setFT_self (pi : ParseInfo) : setFT pi.frameTimes pi = pi := rfl

theorem addCel_setFT (ft : Array UInt16) (pi : ParseInfo) (frame : Nat) (c : RawCel RawPixels) :
    (setFT ft pi).addCel frame c = (pi.addCel frame c).map (setFT ft) := by
  rw [addCel_eq, addCel_eq]
  show Res.map _ (addCelRows pi.cels frame c) = _
  cases addCelRows pi.cels frame c <;> rfl

theorem addUserData_setFT (ft : Array UInt16) (pi : ParseInfo) (u : UserData) :
    (setFT ft pi).addUserData u = (pi.addUserData u).map (setFT ft) := by
  simp only [ParseInfo.addUserData, setFT]
  -- no branch of `addUserData` reads or writes `frameTimes`: in each, both sides are one term
  repeat' split
  all_goals rfl

theorem stepSem_setFT (ft : Array UInt16) (frame : Nat) (pi : ParseInfo) (it : Spec.SItem) :
    Spec.stepSem frame (setFT ft pi) it = (Spec.stepSem frame pi it).map (setFT ft) := by
  cases it with
  | cel c => exact addCel_setFT ft pi frame c
  | userData u => exact addUserData_setFT ft pi u
  | tags ts | oldPalette p =>
      simp only [stepSem_tags, stepSem_oldPalette]
      rfl
  | _ => rfl

theorem runItems_setFT (ft : Array UInt16) (frame : Nat) (its : List Spec.SItem)
    (pi : ParseInfo) :
    Spec.runItems frame (setFT ft pi) its = (Spec.runItems frame pi its).map (setFT ft) :=
  runItems_comm (setFT ft) frame its (fun it _ pi => stepSem_setFT ft frame pi it) pi

/-- the frame-time table after frames `k, k+1, …` have stored their durations -/
def ftSet : Nat → Array UInt16 → List (UInt16 × List Spec.SItem) → Array UInt16
  | _, ft, [] => ft
  | k, ft, (d, _) :: rest => ftSet (k + 1) (ft.set! k d) rest

theorem runFrame_eq (frame : Nat) (d : UInt16) (pi : ParseInfo) (its : List Spec.SItem) :
    Spec.runFrame frame d pi its =
      (Spec.runItems frame pi its).map (setFT (pi.frameTimes.set! frame d)) :=
  runItems_setFT (pi.frameTimes.set! frame d) frame its pi

theorem runFrames_setFT (frames : List (UInt16 × List Spec.SItem)) :
    ∀ (k : Nat) (ft : Array UInt16) (pi : ParseInfo),
      Spec.runFrames k (setFT ft pi) frames =
        (Spec.runFrames k pi frames).map (setFT (ftSet k ft frames)) := by
  induction frames with
  | nil => intro k ft pi; rfl
  | cons f t ih =>
      intro k ft pi
      obtain ⟨d, its⟩ := f
      simp only [Spec.runFrames, runFrame_eq, ftSet]
      have h1 : (setFT ft pi).frameTimes = ft := rfl
      rw [runItems_setFT, h1]
      cases Spec.runItems k pi its with
      | ok pi' =>
          simp only [Res.map_ok, setFT_setFT]
          rw [ih (k + 1) (ft.set! k d) pi', ih (k + 1) (pi.frameTimes.set! k d) pi']
          cases Spec.runFrames (k + 1) pi' t <;> rfl
      | err e => rfl
      | panic s => rfl

theorem runFrames_frameTimes (frames : List (UInt16 × List Spec.SItem)) (k : Nat)
    (pi pi' : ParseInfo) (h : Spec.runFrames k pi frames = .ok pi') :
    pi'.frameTimes = ftSet k pi.frameTimes frames := by
  have := runFrames_setFT frames k pi.frameTimes pi
  rw [setFT_self, h] at this
  simp only [Res.map_ok, Res.ok.injEq] at this
  rw [this]
  rfl

theorem ftSet_append (frames : List (UInt16 × List Spec.SItem)) :
    ∀ (pre post : List UInt16), post.length = frames.length →
      ftSet pre.length (pre ++ post).toArray frames = (pre ++ frames.map (·.1)).toArray := by
  induction frames with
  | nil =>
      intro pre post h
      have : post = [] := List.length_eq_zero_iff.mp h
      subst this
      rfl
  | cons f t ih =>
      intro pre post h
      obtain ⟨d, its⟩ := f
      cases post with
      | nil => cases h
      | cons x post' =>
          -- the write at `pre.length` hits `x`, the head of the second part
          have hset : (pre ++ x :: post').toArray.set! pre.length d
              = ((pre ++ [d]) ++ post').toArray := by
            simp only [Array.set!_eq_setIfInBounds, List.setIfInBounds_toArray, Std.le_refl,
              List.set_append_right, Nat.sub_self, List.set_cons_zero, List.append_assoc,
              List.cons_append, List.nil_append]
          have hlen : (pre ++ [d]).length = pre.length + 1 := List.length_append
          simp only [ftSet, hset]
          rw [← hlen, ih (pre ++ [d]) post' (Nat.succ.inj h)]
          simp only [List.append_assoc, List.cons_append, List.nil_append, List.map_cons]

theorem ftSet_replicate (frames : List (UInt16 × List Spec.SItem)) (t : UInt16) :
    ftSet 0 (Array.replicate frames.length t) frames = (frames.map (·.1)).toArray := by
  have := ftSet_append frames [] (List.replicate frames.length t) List.length_replicate
  simpa only [List.length_nil, List.nil_append, List.toArray_replicate] using this

theorem new_eq_setFT (n : Nat) (t : UInt16) :
    ParseInfo.new n t = setFT (Array.replicate n t) (ParseInfo.new n 0) := rfl

theorem runFrames_new (frames : List (UInt16 × List Spec.SItem)) (t : UInt16) :
    Spec.runFrames 0 (ParseInfo.new frames.length t) frames =
      (Spec.runFrames 0 (ParseInfo.new frames.length 0) frames).map
        (setFT (frames.map (·.1)).toArray) := by
  rw [new_eq_setFT, runFrames_setFT, ftSet_replicate]

theorem runFrames_new_indep (frames : List (UInt16 × List Spec.SItem)) (t : UInt16) :
    Spec.runFrames 0 (ParseInfo.new frames.length t) frames =
      Spec.runFrames 0 (ParseInfo.new frames.length 0) frames := by
  rw [runFrames_new frames t, ← runFrames_new frames 0]

theorem validate_congr (h h' : Header) (fmt : PixelFormat) (pi : ParseInfo)
    (hn : h.numFrames = h'.numFrames) (hw : h.width = h'.width) (hh : h.height = h'.height) :
    validate h fmt pi = validate h' fmt pi := by
  simp only [validate, hn, hw, hh]

/-! The fields `validate` copies, by name (the other three, `parents`, `tilesets` and `cels`, are
    computed: `validate_eq_ok`). -/
section copies
variable {h : Header} {fmt : PixelFormat} {pi : ParseInfo} {s : Sprite}
  (hv : validate h fmt pi = .ok s)
include hv

theorem validate_header :
    s.width = h.width ∧ s.height = h.height ∧ s.numFrames = h.numFrames ∧ s.format = fmt := by
  obtain ⟨_, _, _, _, _, _, _, rfl⟩ := validate_eq_ok hv
  exact ⟨rfl, rfl, rfl, rfl⟩

theorem validate_palette : s.palette = pi.palette := by
  obtain ⟨_, _, _, _, _, _, _, rfl⟩ := validate_eq_ok hv
  rfl

theorem validate_layers : s.layers = pi.layers := by
  obtain ⟨_, _, _, _, _, _, _, rfl⟩ := validate_eq_ok hv
  rfl

theorem validate_frameTimes : s.frameTimes = pi.frameTimes := by
  obtain ⟨_, _, _, _, _, _, _, rfl⟩ := validate_eq_ok hv
  rfl

theorem validate_tags : s.tags = pi.tags.getD #[] := by
  obtain ⟨_, _, _, _, _, _, _, rfl⟩ := validate_eq_ok hv
  rfl

theorem validate_extFiles : s.extFiles = pi.extFiles := by
  obtain ⟨_, _, _, _, _, _, _, rfl⟩ := validate_eq_ok hv
  rfl

theorem validate_spriteUserData : s.spriteUserData = pi.spriteUserData := by
  obtain ⟨_, _, _, _, _, _, _, rfl⟩ := validate_eq_ok hv
  rfl

theorem validate_slices : s.slices = pi.slices := by
  obtain ⟨_, _, _, _, _, _, _, rfl⟩ := validate_eq_ok hv
  rfl

end copies

end Ase.Proofs.WholeFile
