import AseProofs.Lemmas.InflateT
/-
  Test vectors of the total inflater, evaluated by the kernel once.  Evaluating the blocks of a
  stream is the expensive part: the streams that begin with the 15 bytes of `blocks_hello` share
  its blocks (`rw [inflate, inflateZlib, blocks_hello (by decide)]`), and `decide +kernel`
  evaluates only the two header bytes and the four bytes after the blocks.
-/
namespace Ase.ZlibT

deriving instance DecidableEq for R

/-- zlib level 9 of "hello hello hello" (a fixed-Huffman block with an overlapping match); the
    blocks end at bit 95, so the last byte of the Adler-32 is not needed -/
theorem blocks_hello {z : Bytes}
    (hp : [0x78,0xda,0xcb,0x48,0xcd,0xc9,0xc9,0x57,0xc8,0x40,0x90,0x00,0x3a,0x2e,0x06] <+: z) :
    blocks ⟨z.toArray⟩ (8 * (ByteArray.mk z.toArray).size) .empty 16 = .ok
      ⟨#[0x68,0x65,0x6c,0x6c,0x6f,0x20,0x68,0x65,0x6c,0x6c,0x6f,0x20,0x68,0x65,0x6c,0x6c,0x6f]⟩
      95 :=
  blocks_of_prefix hp (by decide) (by decide +kernel)

theorem inflate_hello :
    inflate [0x78,0xda,0xcb,0x48,0xcd,0xc9,0xc9,0x57,0xc8,0x40,0x90,0x00,0x3a,0x2e,0x06,0x7d]
    = .ok [0x68,0x65,0x6c,0x6c,0x6f,0x20,0x68,0x65,0x6c,0x6c,0x6f,0x20,0x68,0x65,0x6c,0x6c,
      0x6f] := by
  rw [inflate, inflateZlib, blocks_hello (by decide)]
  decide +kernel

theorem inflate_hello_short :
    inflate [0x78,0xda,0xcb,0x48,0xcd,0xc9,0xc9,0x57,0xc8,0x40,0x90,0x00,0x3a,0x2e,0x06]
    = .err (.io .unexpectedEof) := by
  rw [inflate, inflateZlib, blocks_hello (by decide)]
  decide +kernel

/-- empty payload (zlib level 6 of "") -/
theorem inflate_empty : inflate [0x78,0x9c,0x03,0x00,0x00,0x00,0x00,0x01] = .ok [] := by
  decide +kernel

/-- stored block (zlib level 0 of "stored!") -/
theorem inflate_stored :
    inflate [0x78,0x01,0x01,0x07,0x00,0xf8,0xff,0x73,0x74,0x6f,0x72,0x65,0x64,0x21,0x0b,0xef,
      0x02,0xb3]
    = .ok [0x73,0x74,0x6f,0x72,0x65,0x64,0x21] := by
  decide +kernel

/-- dynamic-Huffman block (zlib level 9 of 42 bytes over the alphabet "abc") -/
theorem inflate_abc :
    inflate [0x78,0xda,0x25,0x88,0x81,0x09,0x00,0x00,0x08,0x83,0x6e,0xd5,0xfe,0xff,0x21,0x23,
      0x10,0x71,0x93,0xc1,0x10,0x2a,0xae,0x53,0xf3,0x1f,0xc3,0xdc,0xbf,0x58,0xcd,0x10,0x0a]
    = .ok [0x62,0x61,0x63,0x61,0x62,0x63,0x61,0x62,0x62,0x61,0x61,0x61,0x63,0x61,0x61,0x61,
      0x62,0x63,0x61,0x61,0x61,0x62,0x62,0x62,0x61,0x62,0x62,0x61,0x61,0x61,0x63,0x62,0x61,0x63,
      0x62,0x62,0x63,0x62,0x61,0x61,0x62,0x63] := by
  decide +kernel

end Ase.ZlibT
