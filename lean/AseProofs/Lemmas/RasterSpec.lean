import AseProofs.Lemmas.RasterTile
/-
  The point-wise specification of drawing one cel: what `writeCelDirect` / `writeCel` do to the
  pixel at one canvas position (`specCel`, `specWriteCel`; `specCel_raw`, `specCel_tilemap`,
  `specWriteCel_direct`, `specWriteCel_linked` open them on each form of cel); every image the
  renderer produces has the canvas dimensions.  Cel level only; frame level:
  Props/C02Pointwise (`frameImage_spec`).
-/
namespace Ase.Proofs
open Ase

def rawSource (pixels : Array RGBA) (cw ch : Nat) (x0 y0 : Int) (X Y : Nat) : Option RGBA :=
  if InRect x0 y0 cw ch X Y then pixels[((Y : Int) - y0).toNat * cw + ((X : Int) - x0).toNat]?
  else none

def mapSource (t : TilemapData) (pixels : Array RGBA) (tw th : Nat) (cx cy : Int) (X Y : Nat) :
    Option RGBA :=
  if 0 < tw ∧ 0 < th ∧ InMap cx cy tw th t.width.toNat t.height.toNat X Y then
    tileSrc t.tiles pixels tw th t.width.toNat cx cy X Y
  else none

def celPixel (s : Sprite) (layer : LayerData) (c : RawCel Pixels) (X Y : Nat) : Option RGBA :=
  match c.content with
  | .raw w h px =>
      match pixelsToRgba s.palette px with
      | .ok rgba => rawSource rgba w.toNat h.toNat c.data.x.toInt c.data.y.toInt X Y
      | _ => none
  | .tilemap t =>
      match layer.layerType with
      | .tilemap tsid =>
          match s.tileset? tsid.toNat with
          | some ts =>
              match ts.pixels with
              | some px =>
                  match pixelsToRgba s.palette px with
                  | .ok rgba =>
                      mapSource t rgba ts.tileW.toNat ts.tileH.toNat c.data.x.toInt c.data.y.toInt X Y
                  | _ => none
              | none => none
          | none => none
      | _ => none
  | .linked _ => none

section
variable {F : Type} (ops : FOps F) (m : Profile)

/-- a blend that fails keeps `acc`; `blendRes` propagates the failure -/
def blendOr (mode : Nat) (op : UInt8) (acc : RGBA) : Option RGBA → RGBA
  | none => acc
  | some p =>
      match Blend.blend ops m mode acc p op with
      | .ok v => v
      | _ => acc

def blendRes (mode : Nat) (op : UInt8) (acc : RGBA) : Option RGBA → Res RGBA
  | none => .ok acc
  | some p => Blend.blend ops m mode acc p op

theorem blendOr_of_blendRes {mode : Nat} {op : UInt8} {acc v : RGBA} {src : Option RGBA}
    (h : blendRes ops m mode op acc src = .ok v) : blendOr ops m mode op acc src = v := by
  cases src with
  | none =>
      simp only [blendRes] at h
      cases h
      rfl
  | some p =>
      simp only [blendRes] at h
      simp only [blendOr, h]

theorem blendOr_ok {mode : Nat} {op : UInt8} {acc p v : RGBA}
    (h : Blend.blend ops m mode acc p op = .ok v) : blendOr ops m mode op acc (some p) = v := by
  simp only [blendOr, h]

def specCelRes (s : Sprite) (c : RawCel Pixels) (X Y : Nat) (acc : RGBA) : Res RGBA :=
  match s.layers[c.data.layerIndex.toNat]? with
  | none => .panic .assertFail
  | some layer =>
      blendRes ops m layer.blendMode
        (Blend.mulUn8 (Blend.ch layer.opacity) (Blend.ch c.data.opacity)) acc
        (celPixel s layer c X Y)

/-- the pixel at `(X, Y)` after drawing the (non-linked) cel `c` over a pixel `acc`: the cel's
    source pixel there, if any, blended with the layer's mode and the opacity product -/
def specCel (s : Sprite) (c : RawCel Pixels) (X Y : Nat) (acc : RGBA) : RGBA :=
  match s.layers[c.data.layerIndex.toNat]? with
  | none => acc
  | some layer =>
      blendOr ops m layer.blendMode
        (Blend.mulUn8 (Blend.ch layer.opacity) (Blend.ch c.data.opacity)) acc
        (celPixel s layer c X Y)

def shownCel (s : Sprite) (c : RawCel Pixels) : Option (RawCel Pixels) :=
  match c.content with
  | .linked f =>
      match s.cel f.toNat c.data.layerIndex.toNat with
      | .ok (some target) => some target
      | _ => none
  | _ => some c

def specWriteCel (s : Sprite) (c : RawCel Pixels) (X Y : Nat) (acc : RGBA) : RGBA :=
  match shownCel s c with
  | some target => specCel ops m s target X Y acc
  | none => acc

def specWriteCelRes (s : Sprite) (c : RawCel Pixels) (X Y : Nat) (acc : RGBA) : Res RGBA :=
  match shownCel s c with
  | some target => specCelRes ops m s target X Y acc
  | none => .ok acc

theorem Painted.pointwise {mode : Nat} {op : UInt8} {R : Nat → Nat → Prop} {img img' : Image}
    {src : Nat → Nat → Option RGBA}
    (h : Painted (fun old p => Blend.blend ops m mode old p op) R src img img')
    (hout : ∀ X Y, ¬ R X Y → src X Y = none)
    (hsz : img.px.size = img.w * img.h) {X Y : Nat} (hX : X < img.w) (hY : Y < img.h) {acc : RGBA}
    (hacc : img.get X Y = .ok acc) :
    img'.get X Y = .ok (blendOr ops m mode op acc (src X Y)) ∧
    blendRes ops m mode op acc (src X Y) = .ok (blendOr ops m mode op acc (src X Y)) := by
  obtain ⟨a, b⟩ := h.get hsz hX hY
  by_cases hR : R X Y
  · obtain ⟨old, p, v, g1, g2, g3, g4⟩ := a hR
    rw [hacc] at g1; cases g1
    simp only [g2, blendOr, blendRes, g3]
    exact ⟨g4, trivial⟩
  · rw [hout X Y hR, b hR]
    exact ⟨hacc, rfl⟩

/-- `R` is the cel's rectangle (raw cel) or the area of the stored map (tilemap cel): there
    `celPixel` is the pass's source, elsewhere it shows nothing -/
theorem writeCelDirect_painted (s : Sprite) (img img' : Image) (c : RawCel Pixels)
    (h : s.writeCelDirect ops m img c = .ok img') :
    ∃ layer, s.layers[c.data.layerIndex.toNat]? = some layer ∧ ∃ R,
      Painted
        (fun old p => Blend.blend ops m layer.blendMode old p
          (Blend.mulUn8 (Blend.ch layer.opacity) (Blend.ch c.data.opacity)))
        R (celPixel s layer c) img img' ∧ ∀ X Y, ¬ R X Y → celPixel s layer c X Y = none := by
  -- the splits follow the matches of `Sprite.writeCelDirect` in source order: the layer, then the
  -- raw arm and the tilemap arm of the content; every `cases h` closes an arm that fails
  unfold Sprite.writeCelDirect at h
  split at h
  · cases h
  · rename_i layer hlayer
    refine ⟨layer, hlayer, ?_⟩
    unfold celPixel
    split at h
    · rename_i w hh px hcontent
      split at h
      · rename_i rgba hrgba
        simp only [hcontent, hrgba]
        exact ⟨_, (writeRawCel_painted ops m img img' c.data w hh rgba _ _ h).congr
          (fun _ _ _ _ => Iff.rfl) (fun _ _ hR => if_pos hR), fun _ _ hR => if_neg hR⟩
      · cases h
      · cases h
    · rename_i t hcontent
      split at h
      · rename_i tsid hlt
        split at h
        · cases h
        · rename_i ts hts
          split at h
          · cases h
          · rename_i px hpx
            split at h
            · rename_i rgba hrgba
              simp only [hcontent, hlt, hts, hpx, hrgba]
              exact ⟨_, (writeTilemapCel_painted ops m img img' c.data t ts rgba _ _ h).congr
                (fun _ _ _ _ => Iff.rfl) (fun _ _ hR => if_pos hR), fun _ _ hR => if_neg hR⟩
            · cases h
            · cases h
      · cases h
    · cases h

theorem shownCel_direct (s : Sprite) (c : RawCel Pixels) (hnl : ∀ f, c.content ≠ .linked f) :
    shownCel s c = some c := by
  unfold shownCel
  split
  · rename_i f hf; exact absurd hf (hnl f)
  · rfl

theorem writeCel_shown (s : Sprite) (img img' : Image) (c : RawCel Pixels)
    (h : s.writeCel ops m img c = .ok img') :
    match shownCel s c with
    | some target => s.writeCelDirect ops m img target = .ok img'
    | none => img' = img := by
  unfold Sprite.writeCel at h
  split at h
  · rename_i fr hcontent
    split at h
    · cases h
    · split at h
      · rename_i hcel
        simp only [shownCel, hcontent, hcel]
        cases h
        rfl
      · rename_i target hcel
        simp only [shownCel, hcontent, hcel]
        exact h
      · cases h
      · cases h
  · rename_i hnl
    rw [shownCel_direct s c hnl]
    exact h

/-- second part: no blend of the specification failed, so `blendOr` never took its default -/
theorem writeCelDirect_pointwise_full (s : Sprite) (img img' : Image) (c : RawCel Pixels)
    (h : s.writeCelDirect ops m img c = .ok img') (hsz : img.px.size = img.w * img.h)
    (X Y : Nat) (hX : X < img.w) (hY : Y < img.h) (acc : RGBA) (hacc : img.get X Y = .ok acc) :
    img'.get X Y = .ok (specCel ops m s c X Y acc) ∧
    specCelRes ops m s c X Y acc = .ok (specCel ops m s c X Y acc) := by
  obtain ⟨layer, hlayer, _, hp, hout⟩ := writeCelDirect_painted ops m s img img' c h
  simp only [specCel, specCelRes, hlayer]
  exact hp.pointwise ops m hout hsz hX hY hacc

theorem writeCelDirect_pointwise (s : Sprite) (img img' : Image) (c : RawCel Pixels)
    (h : s.writeCelDirect ops m img c = .ok img') (hsz : img.px.size = img.w * img.h)
    (X Y : Nat) (hX : X < img.w) (hY : Y < img.h) (acc : RGBA) (hacc : img.get X Y = .ok acc) :
    img'.get X Y = .ok (specCel ops m s c X Y acc) :=
  (writeCelDirect_pointwise_full ops m s img img' c h hsz X Y hX hY acc hacc).1

/-- the cel level of `C02.frameImage_spec`: one `writeCel` takes the pixel at `(X, Y)` from
    `acc` to `specWriteCel … acc`, and no blend of the specification failed -/
theorem writeCel_pointwise_full (s : Sprite) (img img' : Image) (c : RawCel Pixels)
    (h : s.writeCel ops m img c = .ok img') (hsz : img.px.size = img.w * img.h)
    (X Y : Nat) (hX : X < img.w) (hY : Y < img.h) (acc : RGBA) (hacc : img.get X Y = .ok acc) :
    img'.get X Y = .ok (specWriteCel ops m s c X Y acc) ∧
    specWriteCelRes ops m s c X Y acc = .ok (specWriteCel ops m s c X Y acc) := by
  have := writeCel_shown ops m s img img' c h
  unfold specWriteCel specWriteCelRes
  split at this
  · exact writeCelDirect_pointwise_full ops m s img img' _ this hsz X Y hX hY acc hacc
  · rw [this]
    exact ⟨hacc, rfl⟩

theorem specCel_raw (s : Sprite) (c : RawCel Pixels) (w h : UInt16) (px : Pixels)
    (rgba : Array RGBA) (layer : LayerData) (hraw : c.content = .raw w h px)
    (hrgba : pixelsToRgba s.palette px = .ok rgba)
    (hlayer : s.layers[c.data.layerIndex.toNat]? = some layer) (X Y : Nat) (acc : RGBA) :
    specCel ops m s c X Y acc =
      if InRect c.data.x.toInt c.data.y.toInt w.toNat h.toNat X Y then
        blendOr ops m layer.blendMode
          (Blend.mulUn8 (Blend.ch layer.opacity) (Blend.ch c.data.opacity)) acc
          rgba[((Y : Int) - c.data.y.toInt).toNat * w.toNat + ((X : Int) - c.data.x.toInt).toNat]?
      else acc := by
  simp only [specCel, hlayer, celPixel, hraw, hrgba, rawSource]
  split <;> rfl

theorem specCel_tilemap (s : Sprite) (c : RawCel Pixels) (t : TilemapData) (layer : LayerData)
    (tsid : UInt32) (ts : Tileset Pixels) (px : Pixels) (rgba : Array RGBA)
    (hcontent : c.content = .tilemap t)
    (hlayer : s.layers[c.data.layerIndex.toNat]? = some layer)
    (hlt : layer.layerType = .tilemap tsid) (hts : s.tileset? tsid.toNat = some ts)
    (hpx : ts.pixels = some px) (hrgba : pixelsToRgba s.palette px = .ok rgba)
    (X Y : Nat) (acc : RGBA) :
    specCel ops m s c X Y acc =
      if 0 < ts.tileW.toNat ∧ 0 < ts.tileH.toNat ∧
          InMap c.data.x.toInt c.data.y.toInt ts.tileW.toNat ts.tileH.toNat
            t.width.toNat t.height.toNat X Y then
        blendOr ops m layer.blendMode
          (Blend.mulUn8 (Blend.ch layer.opacity) (Blend.ch c.data.opacity)) acc
          (tileSrc t.tiles rgba ts.tileW.toNat ts.tileH.toNat t.width.toNat
            c.data.x.toInt c.data.y.toInt X Y)
      else acc := by
  simp only [specCel, hlayer, celPixel, hcontent, hlt, hts, hpx, hrgba, mapSource]
  split <;> rfl

theorem specWriteCel_direct (s : Sprite) (c : RawCel Pixels) (hnl : ∀ f, c.content ≠ .linked f)
    (X Y : Nat) (acc : RGBA) : specWriteCel ops m s c X Y acc = specCel ops m s c X Y acc := by
  simp only [specWriteCel, shownCel_direct s c hnl]

theorem specWriteCel_linked (s : Sprite) (c target : RawCel Pixels) (g : UInt16)
    (hlink : c.content = .linked g)
    (ht : s.cel g.toNat c.data.layerIndex.toNat = .ok (some target)) (X Y : Nat) (acc : RGBA) :
    specWriteCel ops m s c X Y acc = specCel ops m s target X Y acc := by
  simp only [specWriteCel, shownCel, hlink, ht]

theorem writeCel_dims (s : Sprite) (img img' : Image) (c : RawCel Pixels)
    (h : s.writeCel ops m img c = .ok img') : SameDims img img' := by
  have := writeCel_shown ops m s img img' c h
  split at this
  · obtain ⟨_, _, _, hp, _⟩ := writeCelDirect_painted ops m s _ _ _ this
    exact hp.1
  · rw [this]; exact SameDims.refl _

theorem frameImageLoop_cons_eq_ok {s : Sprite} {l : Nat} {c : RawCel Pixels} {rest : FrameCels Pixels}
    {img img' : Image} (h : s.frameImageLoop ops m ((l, c) :: rest) img = .ok img') :
    ∃ img₁, s.frameImageLoop ops m rest img₁ = .ok img' ∧
      ((s.isVisible l = .ok false ∧ img₁ = img) ∨
        (s.isVisible l = .ok true ∧ s.writeCel ops m img c = .ok img₁)) := by
  unfold Sprite.frameImageLoop at h
  split at h
  · cases h
  · split at h
    · rename_i hvis; exact ⟨img, h, .inl ⟨hvis, rfl⟩⟩
    · rename_i hvis
      split at h
      · rename_i img₁ hw; exact ⟨img₁, h, .inr ⟨hvis, hw⟩⟩
      · cases h
      · cases h
    · cases h
    · cases h

theorem frameImageLoop_dims (s : Sprite) : ∀ (row : FrameCels Pixels) (img img' : Image),
    s.frameImageLoop ops m row img = .ok img' → SameDims img img' := by
  intro row
  induction row with
  | nil =>
      intro img img' h
      cases h
      exact SameDims.refl _
  | cons hd tl ih =>
      intro img img' h
      obtain ⟨img₁, hrest, ⟨_, rfl⟩ | ⟨_, hw⟩⟩ := frameImageLoop_cons_eq_ok ops m h
      · exact ih _ _ hrest
      · exact (writeCel_dims ops m s _ _ _ hw).trans (ih _ _ hrest)

/-- a frame image that is produced has exactly the canvas dimensions -/
theorem frameImage_dims (s : Sprite) (f : Nat) (img : Image) (h : s.frameImage ops m f = .ok img) :
    img.w = s.width.toNat ∧ img.h = s.height.toNat ∧ img.px.size = s.width.toNat * s.height.toNat := by
  unfold Sprite.frameImage at h
  split at h
  · cases h
  · exact (frameImageLoop_dims ops m s _ _ _ h).of_canvas

theorem celImage_dims (s : Sprite) (f l : Nat) (img : Image) (h : s.celImage ops m f l = .ok img) :
    img.w = s.width.toNat ∧ img.h = s.height.toNat ∧ img.px.size = s.width.toNat * s.height.toNat := by
  unfold Sprite.celImage at h
  split at h
  · cases h
    exact (SameDims.refl _).of_canvas
  · exact (writeCel_dims ops m s _ _ _ h).of_canvas
  · cases h
  · cases h

end
end Ase.Proofs
