import AseProofs.Lemmas.RenderLoops
/-
  C05: the loops of the renderer.  With a total blend function, in-bounds source
  indices and (for the row loop) preserved dimensions, each rendering loop returns `.ok`.
-/
namespace Ase.Proofs.C05
open Ase

def ModeTotal {F : Type} (ops : FOps F) (m : Profile) (mode : Nat) : Prop :=
  ∀ (b s : RGBA) (o : UInt8), ∃ r, Blend.blend ops m mode b s o = .ok r

/-- EVERY blend mode is total; the hypothesis of the rendering theorems.  "Float" is why it is a
    hypothesis: it is a theorem for the 14 integer modes and for every profile without
    `debug_assert!`s (`floatTotal_of_noAsserts`, `floatTotal_release` in `Props/C05.lean`); for the
    five floating-point modes in the checked profile the range assertions of `from_rgba_i32`
    depend on the floating-point parameter `ops`. -/
def FloatTotal {F : Type} (ops : FOps F) (m : Profile) : Prop :=
  ∀ (mode : Nat) (b s : RGBA) (o : UInt8), ∃ r, Blend.blend ops m mode b s o = .ok r

theorem FloatTotal.mode {F : Type} {ops : FOps F} {m : Profile} (h : FloatTotal ops m)
    (mode : Nat) : ModeTotal ops m mode := h mode

def LayersTotal {F : Type} (ops : FOps F) (m : Profile) (s : Sprite) : Prop :=
  ∀ ld ∈ s.layers, ModeTotal ops m ld.blendMode

theorem FloatTotal.layers {F : Type} {ops : FOps F} {m : Profile} (h : FloatTotal ops m)
    (s : Sprite) : LayersTotal ops m s := fun ld _ => h ld.blendMode

theorem tile_window {ppt id count : Nat} (hid : id < count) : ppt * id + ppt ≤ ppt * count :=
  Nat.mul_le_mul_left ppt (Nat.succ_le_of_lt hid)

open Ase.Proofs

theorem foldlM_ok {α β : Type} {step : β → α → Res β} {P : β → Prop} :
    ∀ (l : List α), (∀ a ∈ l, ∀ b, P b → ∃ b', step b a = .ok b' ∧ P b') →
      ∀ b, P b → ∃ b', l.foldlM step b = .ok b' ∧ P b' := by
  intro l
  induction l with
  | nil => intro _ b hb; exact ⟨b, rfl, hb⟩
  | cons a l ih =>
      intro hstep b hb
      obtain ⟨ha, hl⟩ := List.forall_mem_cons.mp hstep
      obtain ⟨b1, h1, hb1⟩ := ha b hb
      rw [List.foldlM_cons, h1]
      exact ih hl b1 hb1

theorem blendAt_total {g : RGBA → Res RGBA} (hg : ∀ b, ∃ r, g b = .ok r) {img : Image} {x y : Nat}
    (hx : x < img.w) (hy : y < img.h) :
    ∃ img', blendAt g img x y = .ok img' ∧ SameDims img img' := by
  obtain ⟨r, hr⟩ := hg (img.px.getD (y * img.w + x) RGBA.zero)
  have hput : img.put x y r = .ok { img with px := img.px.setIfInBounds (y * img.w + x) r } := by
    simp [Image.put, hx, hy]
  exact ⟨_, by simp only [blendAt, Ase.Proofs.get_ok img hx hy, hr, hput], put_dims hput⟩

section
variable {f : RGBA → RGBA → Res RGBA} (hT : ∀ b s, ∃ r, f b s = .ok r) {img₀ img : Image}
  (hd : SameDims img₀ img)
include hT hd

theorem rawCol_ok {pixels : Array RGBA} {cw : Nat} {x0 : Int} {y row col : Nat}
    (hy : y < img₀.h) (hidx : row * cw + col < pixels.size) :
    ∃ img', rawCol f pixels cw x0 y row img col = .ok img' ∧ SameDims img₀ img' := by
  unfold rawCol
  split
  · exact ⟨img, rfl, hd⟩
  · rename_i hx
    simp only [Bool.or_eq_true, decide_eq_true_eq, not_or, Int.not_lt, ge_iff_le, Int.not_le] at hx
    rw [Array.getElem?_eq_getElem hidx]
    obtain ⟨img', h, hd'⟩ := blendAt_total (g := (f · pixels[row * cw + col])) (fun b => hT b _)
      (img := img) (x := (x0 + col).toNat) (y := y) (by omega) (hd.2.1 ▸ hy)
    exact ⟨img', h, hd.trans hd'⟩

theorem rawRow_ok {pixels : Array RGBA} {cw : Nat} {x0 y0 : Int} {row : Nat}
    (hidx : ∀ c, c < cw → row * cw + c < pixels.size) :
    ∃ img', rawRow f pixels cw x0 y0 img row = .ok img' ∧ SameDims img₀ img' := by
  unfold rawRow
  split
  · exact ⟨img, rfl, hd⟩
  · rename_i hy
    simp only [Bool.or_eq_true, decide_eq_true_eq, not_or, Int.not_lt, ge_iff_le, Int.not_le] at hy
    have hy' : (y0 + row).toNat < img₀.h := by rw [hd.2.1]; omega
    exact foldlM_ok (P := SameDims img₀) _
      (fun c hc b hb => rawCol_ok hT hb hy' (hidx c (by have := List.mem_range'_1.mp hc; omega)))
      img hd

theorem tilePx_ok {tp : Array RGBA} {tw : Nat} {bx by_ : Int} {idx : Nat} (hidx : idx < tp.size) :
    ∃ img', tilePx f tp tw bx by_ img idx = .ok img' ∧ SameDims img₀ img' := by
  unfold tilePx
  rw [Array.getElem?_eq_getElem hidx]
  dsimp only
  split
  · rename_i hin
    simp only [Bool.and_eq_true, decide_eq_true_eq] at hin
    obtain ⟨img', h, hd'⟩ := blendAt_total (g := (f · tp[idx])) (fun b => hT b _) (img := img)
      (x := (bx + (idx % tw : Nat)).toNat) (y := (by_ + (idx / tw : Nat)).toNat) (by omega)
      (by omega)
    exact ⟨img', h, hd.trans hd'⟩
  · exact ⟨img, rfl, hd⟩

theorem tileAt_ok {t : TilemapData} {pixels : Array RGBA} {tw th : Nat} {cx cy : Int} {idx : Nat}
    (hwin : ∀ id ∈ t.tiles, tw * th * id.toNat + tw * th ≤ pixels.size) (hlt : idx < t.tiles.size) :
    ∃ img', tileAt f t pixels tw th cx cy img idx = .ok img' ∧ SameDims img₀ img' := by
  unfold tileAt
  rw [show idx / t.width.toNat * t.width.toNat + idx % t.width.toNat = idx from
    Nat.div_add_mod' idx t.width.toNat, Array.getElem?_eq_getElem hlt]
  have hw := hwin t.tiles[idx] (Array.getElem_mem hlt)
  dsimp only
  rw [if_neg (by omega)]
  refine foldlM_ok (P := SameDims img₀) _ (fun i hi b hb => tilePx_ok hT hb ?_) img hd
  have := List.mem_range'_1.mp hi
  simp only [Array.size_extract]
  omega

end

section
variable {F : Type} (ops : FOps F) (m : Profile)

theorem writeRawCel_ok (img : Image) (d : CelCommon) (w h : UInt16) (pixels : Array RGBA)
    (mode : Nat) (hT : ModeTotal ops m mode) (lop : UInt8) (hsz : pixels.size = w.toNat * h.toNat) :
    ∃ img', Sprite.writeRawCel ops m img d w h pixels mode lop = .ok img' := by
  unfold Sprite.writeRawCel
  rw [writeRawRows_eq ops m (fun _ _ => rfl)]
  refine (foldlM_ok (P := SameDims img) _ (fun r hr b hb =>
    rawRow_ok (fun b s => hT b s _) hb (fun c hc => ?_)) img (SameDims.refl _)).imp (fun _ h => h.1)
  have := List.mem_range'_1.mp hr
  rw [hsz]
  exact index_lt hc (by omega)

theorem writeTilemapCel_ok (img : Image) (d : CelCommon) (t : TilemapData)
    (ts : Tileset Pixels) (pixels : Array RGBA) (mode : Nat) (hT : ModeTotal ops m mode)
    (lop : UInt8)
    (hsz : t.tiles.size = t.width.toNat * t.height.toNat)
    (hpx : pixels.size = ts.tileCount.toNat * ts.tileW.toNat * ts.tileH.toNat)
    (hid : ∀ id ∈ t.tiles, id.toNat < ts.tileCount.toNat) :
    ∃ img', Sprite.writeTilemapCel ops m img d t ts pixels mode lop = .ok img' := by
  unfold Sprite.writeTilemapCel
  rw [writeTiles_eq ops m (fun _ _ => rfl)]
  have hwin : ∀ id ∈ t.tiles, ts.tileW.toNat * ts.tileH.toNat * id.toNat +
      ts.tileW.toNat * ts.tileH.toNat ≤ pixels.size := by
    intro id hmem
    rw [hpx, show ts.tileCount.toNat * ts.tileW.toNat * ts.tileH.toNat
      = ts.tileW.toNat * ts.tileH.toNat * ts.tileCount.toNat by ac_rfl]
    exact tile_window (hid id hmem)
  refine (foldlM_ok (P := SameDims img) _ (fun i hi b hb =>
    tileAt_ok (fun b s => hT b s _) hb hwin ?_) img (SameDims.refl _)).imp (fun _ h => h.1)
  have := List.mem_range'_1.mp hi
  omega

end
end Ase.Proofs.C05
