import Ase.Parse
/-
  Panic-freedom of results (`RSat`) and readers (`NP`, `Sat`).  `RSat` and `Sat` carry a
  postcondition along with "not a panic", so that an invariant can be threaded through a run;
  `RSatA A Q` allows a panic when the assumption `A` fails (the form in which the decoders'
  statements reach the chunk level).
  Then the two hypotheses of C04 (`SrcNP`: the byte source never panics, `InflNP`: the inflater
  never panics) and panic-freedom of the small total functions of the model (`noPanic_outputSize`
  … `noPanic_parsePixelFormat`).
-/
namespace Ase.Proofs.C04
open Ase

def RSat {α} (Q : α → Prop) : Res α → Prop
  | .ok a => Q a
  | .err _ => True
  | .panic _ => False

@[simp] theorem rsat_ok {α} (Q : α → Prop) (a : α) : RSat Q (.ok a) ↔ Q a := Iff.rfl
@[simp] theorem rsat_err {α} (Q : α → Prop) (e : Err) : RSat Q (.err e : Res α) ↔ True := Iff.rfl
@[simp] theorem rsat_panic {α} (Q : α → Prop) (s : Site) : RSat Q (.panic s : Res α) ↔ False :=
  Iff.rfl
@[simp] theorem rsat_pure {α} (Q : α → Prop) (a : α) : RSat Q (pure a : Res α) ↔ Q a := Iff.rfl

theorem RSat.noPanic {α} {Q : α → Prop} {x : Res α} (h : RSat Q x) : Res.NoPanic x := by
  intro s hs; subst hs; exact h

theorem rsat_of_noPanic {α} {x : Res α} (h : Res.NoPanic x) : RSat (fun _ => True) x := by
  cases x with
  | ok a => trivial
  | err e => trivial
  | panic s => exact h s rfl

theorem RSat.of_ok {α} {Q : α → Prop} {x : Res α} {a : α} (h : RSat Q x) (hx : x = .ok a) : Q a := by
  subst hx; exact h

theorem RSat.mono {α} {P Q : α → Prop} {x : Res α} (h : RSat P x) (hpq : ∀ a, P a → Q a) :
    RSat Q x := by
  cases x with
  | ok a => exact hpq a h
  | err e => trivial
  | panic s => exact h

theorem RSat.bind {α β} {P : α → Prop} {Q : β → Prop} {x : Res α} {f : α → Res β}
    (hx : RSat P x) (hf : ∀ a, P a → RSat Q (f a)) : RSat Q (x >>= f) := by
  cases x with
  | ok a => exact hf a hx
  | err e => trivial
  | panic s => exact hx

theorem RSat.map {α β} {Q : β → Prop} {x : Res α} (f : α → β)
    (hx : RSat (fun a => Q (f a)) x) : RSat Q (x.map f) := by
  cases x with
  | ok a => exact hx
  | err e => trivial
  | panic s => exact hx

/-- `RSat` with the panic under an assumption: `Q` of a delivered value, a panic only if `¬ A`;
    without the assumption (`of_ok`) what a success delivers, with it (`rsat`) no panic either -/
def RSatA {α} (A : Prop) (Q : α → Prop) : Res α → Prop
  | .ok a => Q a
  | .err _ => True
  | .panic _ => ¬ A

theorem RSatA.of_ok {α} {A : Prop} {Q : α → Prop} {r : Res α} {a : α} (h : RSatA A Q r)
    (hr : r = .ok a) : Q a := by
  subst hr
  exact h

theorem RSatA.rsat {α} {A : Prop} {Q : α → Prop} {r : Res α} (h : RSatA A Q r) (hA : A) :
    RSat Q r := by
  cases r with
  | ok a => exact h
  | err e => trivial
  | panic s => exact h hA

theorem noPanic_map {α β} {x : Res α} (f : α → β) (hx : Res.NoPanic x) :
    Res.NoPanic (x.map f) :=
  (RSat.map (Q := fun _ => True) f (rsat_of_noPanic hx)).noPanic

theorem noPanic_ite {α} {c : Prop} [Decidable c] {a b : Res α} (ha : Res.NoPanic a)
    (hb : Res.NoPanic b) : Res.NoPanic (if c then a else b) := by
  split <;> assumption

theorem ok_or_err_of_noPanic {α} {x : Res α} (h : Res.NoPanic x) :
    (∃ a, x = .ok a) ∨ (∃ e, x = .err e) := by
  cases x with
  | ok a => exact .inl ⟨a, rfl⟩
  | err e => exact .inr ⟨e, rfl⟩
  | panic s => exact absurd rfl (h s)

structure NP {σ α} (x : RdS σ α) : Prop where
  np : ∀ s p, x s ≠ .panic p

def Sat {σ α} (Q : α → Prop) (x : RdS σ α) : Prop := ∀ s, RSat (fun r => Q r.1) (x s)

theorem Sat.np {σ α} {Q : α → Prop} {x : RdS σ α} (h : Sat Q x) : NP x :=
  ⟨fun s p hp => by have := h s; rwa [hp] at this⟩

theorem NP.sat {σ α} {x : RdS σ α} (h : NP x) : Sat (fun _ => True) x :=
  fun s => rsat_of_noPanic (h.np s)

theorem Sat_pure {σ α} {Q : α → Prop} {a : α} (h : Q a) : Sat Q (pure a : RdS σ α) := by
  intro s; exact h

theorem Sat_lift {σ α} {Q : α → Prop} {r : Res α} (h : RSat Q r) :
    Sat Q (RdS.lift r : RdS σ α) := by
  intro s
  cases r <;> exact h

theorem Sat_bind {σ α β} {P : α → Prop} {Q : β → Prop} {x : RdS σ α} {f : α → RdS σ β}
    (hx : Sat P x) (hf : ∀ a, P a → Sat Q (f a)) : Sat Q (x >>= f) := by
  intro s
  rw [RdS.bind_run]
  have h := hx s
  generalize x s = r at h ⊢
  cases r with
  | ok r => exact hf r.1 h r.2
  | err e => trivial
  | panic q => exact h

theorem NP_pure {σ α} (a : α) : NP (pure a : RdS σ α) := by
  constructor; intro s p h; cases h

theorem NP_fail {σ α} (e : Err) : NP (RdS.fail e : RdS σ α) := by
  constructor; intro s p h; cases h

theorem NP_lift {σ α} {r : Res α} (h : Res.NoPanic r) : NP (RdS.lift r : RdS σ α) :=
  (Sat_lift (rsat_of_noPanic h)).np

theorem NP_bind {σ α β} {x : RdS σ α} {f : α → RdS σ β} (hx : NP x) (hf : ∀ a, NP (f a)) :
    NP (x >>= f) :=
  (Sat_bind hx.sat fun a _ => (hf a).sat).np

theorem Sat_bind_np {σ α β} {Q : β → Prop} {x : RdS σ α} {f : α → RdS σ β}
    (hx : NP x) (hf : ∀ a, Sat Q (f a)) : Sat Q (x >>= f) :=
  Sat_bind hx.sat (fun a _ => hf a)

def SrcNP {σ} (S : Src σ) : Prop := ∀ n, NP (S.read n)

theorem srcNP_bytes : SrcNP bytesSrc := by
  intro n
  constructor
  intro s p h
  simp only [bytesSrc, bytesRead] at h
  split at h <;> cases h

def InflNP (inflate : Inflate) : Prop := ∀ z s, inflate z ≠ .panic s

section prim
variable {σ : Type} {S : Src σ}

theorem NP_read (hS : SrcNP S) (n : Nat) : NP (S.read n) := hS n

end prim

theorem NP_readRest : NP readRest := by
  constructor; intro s p h; cases h

theorem noPanic_outputSize (fmt : PixelFormat) (n : Nat) : Res.NoPanic (outputSize fmt n) :=
  noPanic_ite (Res.noPanic_ok _) (Res.noPanic_err _)

theorem noPanic_pixelsFromBytes (fmt : PixelFormat) (b : Bytes) :
    Res.NoPanic (pixelsFromBytes fmt b) := by
  cases fmt with
  | rgba => exact noPanic_ite (Res.noPanic_err _) (Res.noPanic_ok _)
  | grayscale => exact noPanic_ite (Res.noPanic_err _) (Res.noPanic_ok _)
  | indexed t => exact Res.noPanic_ok _

theorem noPanic_scale6 (c : UInt8) : Res.NoPanic (scale6 c) :=
  noPanic_ite (Res.noPanic_err _) (Res.noPanic_ok _)

theorem noPanic_parseChunkType (code : UInt16) : Res.NoPanic (parseChunkType code) := by
  unfold parseChunkType
  split <;> first | exact Res.noPanic_ok _ | exact Res.noPanic_err _

theorem noPanic_parsePixelFormat (d : UInt16) (t : UInt8) :
    Res.NoPanic (parsePixelFormat d t) := by
  unfold parsePixelFormat
  split <;> first | exact Res.noPanic_ok _ | exact Res.noPanic_err _

theorem noPanic_u32Add_release (a b : Nat) : Res.NoPanic (u32Add .release a b) := by
  unfold u32Add
  split <;> exact Res.noPanic_ok _

end Ase.Proofs.C04
