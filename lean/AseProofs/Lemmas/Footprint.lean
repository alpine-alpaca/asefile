import Ase.Footprint
import AseProofs.Lemmas.Assoc
/-
  C12: sums of element sizes (`Footprint.sumBy`) over the containers of the parser state.
-/
namespace Ase.Proofs.C12
open Ase Ase.Footprint

@[simp] theorem sumBy_nil {α} (f : α → Nat) : sumBy f [] = 0 := rfl
@[simp] theorem sumBy_cons {α} (f : α → Nat) (a : α) (t : List α) :
    sumBy f (a :: t) = f a + sumBy f t := rfl

theorem sumBy_const {α} (c : Nat) : ∀ l : List α, sumBy (fun _ => c) l = c * l.length
  | [] => by simp
  | _ :: t => by simp only [sumBy_cons, sumBy_const c t, List.length_cons, Nat.mul_succ]; omega

theorem sumBy_append {α} (f : α → Nat) : ∀ (l l' : List α),
    sumBy f (l ++ l') = sumBy f l + sumBy f l'
  | [], l' => (Nat.zero_add _).symm
  | a :: t, l' => by
      simp only [List.cons_append, sumBy_cons, sumBy_append f t l']
      omega

theorem sumBy_filter_le {α} (f : α → Nat) (p : α → Bool) : ∀ l : List α,
    sumBy f (l.filter p) ≤ sumBy f l
  | [] => Nat.le_refl _
  | a :: t => by
      have := sumBy_filter_le f p t
      simp only [List.filter_cons]
      split
      · simp only [sumBy_cons]
        omega
      · simp only [sumBy_cons]
        omega

theorem sumBy_assocInsert {α} (g : α → Nat) (k : Nat) (v : α) (l : List (Nat × α)) :
    sumBy (fun p => g p.2) (assocInsert k v l) ≤ sumBy (fun p => g p.2) l + g v := by
  have := sumBy_filter_le (fun p : Nat × α => g p.2) (fun p => p.1 != k) l
  simp only [assocInsert, sumBy_cons]
  omega

theorem sumBy_set {α} (f : α → Nat) : ∀ (l : List α) (i : Nat) (a b : α), l[i]? = some a →
    sumBy f (l.set i b) + f a = sumBy f l + f b
  | [], i, a, b, h => by cases h
  | x :: t, 0, a, b, h => by
      simp only [List.getElem?_cons_zero, Option.some.injEq] at h
      subst h
      simp only [List.set_cons_zero, sumBy_cons]
      omega
  | x :: t, i + 1, a, b, h => by
      simp only [List.getElem?_cons_succ] at h
      have := sumBy_set f t i a b h
      simp only [List.set_cons_succ, sumBy_cons]
      omega

theorem sumBy_set! {α} (f : α → Nat) (arr : Array α) (i : Nat) (a b : α)
    (h : arr[i]? = some a) :
    sumBy f (arr.set! i b).toList + f a = sumBy f arr.toList + f b := by
  simp only [Array.set!_eq_setIfInBounds, Array.toList_setIfInBounds]
  exact sumBy_set f arr.toList i a b (Array.getElem?_toList ▸ h)

theorem sumBy_push {α} (f : α → Nat) (arr : Array α) (a : α) :
    sumBy f (arr.push a).toList = sumBy f arr.toList + f a := by
  rw [Array.toList_push, sumBy_append]
  rfl

theorem sumBy_le_of_all2 {α β : Type} {R : α → β → Prop} (f : α → Nat) (g : β → Nat)
    (hR : ∀ a b, R a b → g b ≤ f a) {l : List α} {l' : List β} (h : C10.All₂ R l l') :
    sumBy g l' ≤ sumBy f l := by
  induction h with
  | nil => exact Nat.le_refl _
  | cons hr _ ih =>
      have := hR _ _ hr
      simp only [sumBy_cons]
      omega

theorem sumBy_replicate {α} (f : α → Nat) (a : α) :
    ∀ n, sumBy f (List.replicate n a) = n * f a
  | 0 => (Nat.zero_mul _).symm
  | n + 1 => by
      simp only [List.replicate_succ, sumBy_cons, sumBy_replicate f a n, Nat.succ_mul]
      omega

end Ase.Proofs.C12
