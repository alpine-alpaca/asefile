import Ase.Alloc
import AseProofs.Lemmas.Valid
import AseProofs.Lemmas.Footprint
import AseProofs.Lemmas.SatC
import AseProofs.Lemmas.OldPalette
import AseProofs.Lemmas.Machine
/-
  One `SatC` statement per chunk decoder: no panic (C04; the decoders that inflate under
  `InflNP inflate`), a footprint linear in the bytes consumed (C12; compressed payloads under
  `Alloc.ExpansionBounded`, a premise of that part only), and the exact buffer sizes of cel and
  tileset chunks (C05) - these for every `inflate`, since `unzip` compares the inflated length
  with the declared size.  At the end the statements are put together, arm by arm, into one about
  `Machine.decodeChunk` (`decodeChunk_spec`), which is what C04, C05 and C12 use.
-/
-- `C05.group*_length`: C05's exact buffer sizes rest on them, hence its namespace
namespace Ase.Proofs.C05
open Ase

theorem groupRgba_length : ∀ bs : Bytes, (groupRgba bs).length = bs.length / 4
  | [] => by simp [groupRgba]
  | [_] => by simp [groupRgba]
  | [_, _] => by simp [groupRgba]
  | [_, _, _] => by simp [groupRgba]
  | _ :: _ :: _ :: _ :: t => by
      simp only [groupRgba, List.length_cons, groupRgba_length t]
      omega

theorem groupGray_length : ∀ bs : Bytes, (groupGray bs).length = bs.length / 2
  | [] => by simp [groupGray]
  | [_] => by simp [groupGray]
  | _ :: _ :: t => by
      simp only [groupGray, List.length_cons, groupGray_length t]
      omega

theorem groupTiles_length (mask : UInt32) :
    ∀ bs : Bytes, (groupTiles mask bs).length = bs.length / 4
  | [] => by simp [groupTiles]
  | [_] => by simp [groupTiles]
  | [_, _] => by simp [groupTiles]
  | [_, _, _] => by simp [groupTiles]
  | _ :: _ :: _ :: _ :: t => by
      simp only [groupTiles, List.length_cons, groupTiles_length mask t]
      omega

end Ase.Proofs.C05

-- The `SatC` statements carry the namespace of C12, the property that first needed them (they
-- count bytes), their `Post` corollaries for C10 and C15 that of C05.
namespace Ase.Proofs.C12
open Ase Ase.Footprint Ase.Proofs.C05 Ase.Proofs.C04

variable {A : Prop}

theorem satC_rdRepeat {α} (P : α → Prop) (g : α → Nat) (c : Nat) {p : Rd α}
    (hp : SatC A (fun a u => P a ∧ g a ≤ c * u) p) :
    ∀ k, SatC A (fun l u => (∀ a ∈ l, P a) ∧ sumBy g l ≤ c * u) (rdRepeat p k) := by
  intro k
  induction k with
  | zero => unfold rdRepeat; exact SatC_pure ⟨fun _ h => (by cases h), by simp⟩
  | succ k ih =>
      unfold rdRepeat
      refine SatC_bind hp (fun a n ha => ?_)
      refine SatC_bind ih (fun l n' hl => ?_)
      refine SatC_pure ⟨List.forall_mem_cons.mpr ⟨ha.1, hl.1⟩, ?_⟩
      simp only [sumBy_cons, Nat.add_zero, Nat.mul_add]
      omega

theorem satC_parseLayerType (id : UInt16) : SatC A (fun _ _ => True) (parseLayerType id) := by
  unfold parseLayerType
  split
  · exact SatC_pure trivial
  · exact SatC_pure trivial
  · exact SatC_bind_fixed fun _ => SatC_pure trivial
  · exact SatC_fail _

theorem satC_parseBlendMode (id : UInt16) : SatC A (fun _ _ => True) (parseBlendMode id) := by
  unfold parseBlendMode
  exact SatC_ite _ (SatC_pure trivial) (SatC_fail _)

/-- 18 = the bytes of a layer chunk besides the name, 72 = the fixed part of `layerSize` -/
theorem satC_parseLayerChunk :
    SatC A (fun l u => l.userData = none ∧ layerSize l + 18 ≤ u + 72 ∧ 18 ≤ u) parseLayerChunk := by
  unfold parseLayerChunk
  satC_reads
  refine SatC_bind satC_readString (fun name n hn => ?_)
  refine SatC_bind (satC_parseLayerType _) (fun lt n2 _ => ?_)
  refine SatC_bind (satC_parseBlendMode _) (fun bm n3 _ => ?_)
  refine SatC_pure ⟨rfl, ?_⟩
  simp only [layerSize, udSize]
  omega

/-- a tag consumed at least 19 bytes and costs 64 + name -/
theorem satC_parseTag :
    SatC A (fun t u => (t.direction ≤ 2 ∧ t.userData = none) ∧ tagSize t ≤ 4 * u) parseTag := by
  unfold parseTag
  satC_reads
  refine SatC_bind satC_readString (fun name n hn => ?_)
  split
  · rename_i hd
    refine SatC_pure ⟨⟨hd, rfl⟩, ?_⟩
    simp only [tagSize, udSize]
    omega
  · exact SatC_fail _

theorem satC_parseTagsChunk :
    SatC A (fun ts u => (∀ t ∈ ts, t.direction ≤ 2 ∧ t.userData = none) ∧ sumBy tagSize ts ≤ 4 * u)
      parseTagsChunk := by
  unfold parseTagsChunk
  satC_reads
  exact SatC_weaken (satC_rdRepeat _ tagSize 4 satC_parseTag _) (fun l n h => ⟨h.1, by omega⟩)

/-- a slice key consumed at least 20 bytes and costs 52 -/
theorem satC_parseSliceKey (flags : UInt32) :
    SatC A (fun _ u => 52 ≤ 3 * u) (parseSliceKey flags) := by
  unfold parseSliceKey
  satC_reads
  refine SatC_ite_bind (P := fun _ _ => True) _ ?_ (SatC_pure trivial) (fun s9 n1 _ => ?_)
  · satC_reads
    exact SatC_pure trivial
  refine SatC_ite_bind (P := fun _ _ => True) _ ?_ (SatC_pure trivial) (fun pv n2 _ => ?_)
  · satC_reads
    exact SatC_pure trivial
  refine SatC_pure ?_
  omega

/-- 14 bytes besides the name and the keys; 80 = the fixed part of `sliceSize`, a key costs 52 -/
theorem satC_parseSliceChunk :
    SatC A (fun s u => s.userData = none ∧ sliceSize s ≤ 3 * u + 80) parseSliceChunk := by
  unfold parseSliceChunk
  satC_reads
  refine SatC_bind satC_readString (fun name n1 hn => ?_)
  refine SatC_bind (satC_rdRepeat (fun _ => True) (fun _ => 52) 3
      (SatC_weaken (satC_parseSliceKey _) (fun _ _ h => ⟨trivial, h⟩)) _)
    (fun keys n2 hk => ?_)
  refine SatC_pure ⟨rfl, ?_⟩
  rw [sumBy_const] at hk
  simp only [sliceSize, udSize]
  omega

/-- the text consumed its length + 2; 32 = the fixed part of `udSize` -/
theorem satC_parseUserDataChunk :
    SatC A (fun ud u => udSize (some ud) ≤ u + 32) parseUserDataChunk := by
  unfold parseUserDataChunk
  satC_reads
  refine SatC_ite_bind (P := fun o u => optLen o ≤ u) _ ?_ (SatC_pure (by simp [optLen]))
    (fun text n1 ht => ?_)
  · refine SatC_bind satC_readString (fun s n hn => ?_)
    refine SatC_pure ?_
    simp only [optLen]
    omega
  refine SatC_ite_bind (P := fun _ _ => True) _ ?_ (SatC_pure trivial) (fun color n2 _ => ?_)
  · satC_reads
    exact SatC_pure trivial
  refine SatC_pure ?_
  simp only [udSize]
  omega

/-- an external file consumed at least 14 bytes and costs 32 + name -/
theorem satC_parseExternalFile : SatC A (fun f u => extFileSize f ≤ 3 * u) parseExternalFile := by
  unfold parseExternalFile
  satC_reads
  refine SatC_bind satC_readString (fun name n hn => ?_)
  refine SatC_pure ?_
  simp only [extFileSize]
  omega

theorem satC_parseExternalFilesChunk :
    SatC A (fun fs u => sumBy extFileSize fs ≤ 3 * u) parseExternalFilesChunk := by
  unfold parseExternalFilesChunk
  satC_reads
  exact SatC_weaken (satC_rdRepeat (fun _ => True) extFileSize 3
    (SatC_weaken satC_parseExternalFile (fun _ _ h => ⟨trivial, h⟩)) _) (fun l n h => by omega)

theorem paletteSize_insert (p : Palette) (e : PalEntry) :
    paletteSize (p.insert e) ≤ paletteSize p + palEntrySize e :=
  sumBy_assocInsert palEntrySize e.id e p.entries

/-- a palette entry consumed at least 6 bytes and costs 32 + name -/
theorem satC_parsePaletteEntry (id : Nat) :
    SatC A (fun e u => palEntrySize e ≤ 6 * u) (parsePaletteEntry id) := by
  unfold parsePaletteEntry
  satC_reads
  refine SatC_ite_bind (P := fun o u => optLen o ≤ u) _ ?_ (SatC_pure (by simp [optLen]))
    (fun name n1 hn => ?_)
  · refine SatC_bind satC_readString (fun s n hn => ?_)
    refine SatC_pure ?_
    simp only [optLen]
    omega
  refine SatC_pure ?_
  simp only [palEntrySize]
  omega

theorem satC_parsePaletteEntries : ∀ (n id : Nat) (p : Palette),
    SatC A (fun p' u => paletteSize p' ≤ paletteSize p + 6 * u) (parsePaletteEntries n id p) := by
  intro n
  induction n with
  | zero => intro id p; unfold parsePaletteEntries; exact SatC_pure (by omega)
  | succ n ih =>
      intro id p
      unfold parsePaletteEntries
      refine SatC_bind (satC_parsePaletteEntry id) (fun e n1 he => ?_)
      refine SatC_weaken (ih (id + 1) (p.insert e)) (fun p' n2 h => ?_)
      have := paletteSize_insert p e
      omega

/-- 20 bytes of header, then the entries (`satC_parsePaletteEntries`) -/
theorem satC_parsePaletteChunk : SatC A (fun p u => paletteSize p ≤ 6 * u) parsePaletteChunk := by
  unfold parsePaletteChunk
  satC_reads
  refine SatC_ite _ (SatC_fail _) ?_
  refine SatC_weaken (satC_parsePaletteEntries _ _ _) (fun p n h => ?_)
  have : paletteSize Palette.empty = 0 := rfl
  omega

instance (scaled : Bool) : FixedRead (parseOldColor scaled) 1 := ⟨by
  unfold parseOldColor
  satC_reads
  exact SatC_ite _ (SatC_lift (fun _ => noPanic_scale6 _) (fun _ _ => rfl)) (SatC_pure rfl)⟩

/-- an old-style colour consumed 3 bytes and costs one entry of 32 -/
theorem satC_parseOldEntries (scaled : Bool) : ∀ (n id : Nat) (p : Palette),
    SatC A (fun p' u => paletteSize p' ≤ paletteSize p + 11 * u)
      (parseOldEntries scaled n id p) := by
  intro n
  induction n with
  | zero => intro id p; unfold parseOldEntries; exact SatC_pure (by omega)
  | succ n ih =>
      intro id p
      unfold parseOldEntries
      satC_reads
      rename_i r g b
      refine SatC_weaken (ih (id + 1) _) (fun p' n2 h => ?_)
      have := paletteSize_insert p { id := id, rgba := ⟨r, g, b, 255⟩, name := none }
      have h32 : palEntrySize { id := id, rgba := ⟨r, g, b, 255⟩, name := none } = 32 := rfl
      omega

/-- in a build without overflow checks the packet loop has no panic site of its own -/
theorem satC_parseOldPackets_release (scaled : Bool) : ∀ (n sk : Nat) (p : Palette),
    SatC A (fun p' u => paletteSize p' ≤ paletteSize p + 11 * u)
      (parseOldPackets .release scaled n sk p) := by
  intro n
  induction n with
  | zero => intro sk p; unfold parseOldPackets; exact SatC_pure (by omega)
  | succ n ih =>
      intro sk p
      unfold parseOldPackets
      satC_reads
      refine SatC_bind_lift (fun _ => noPanic_u32Add_release _ _) (fun sk' _ => ?_)
      satC_reads
      refine SatC_bind_lift (fun _ => noPanic_u32Add_release _ _) (fun _ _ => ?_)
      refine SatC_bind (satC_parseOldEntries scaled _ _ p) (fun p1 n1 h1 => ?_)
      refine SatC_weaken (ih sk' p1) (fun p' n2 h => ?_)
      omega

/-- every build profile runs the loop of the release profile (`C16.parseOldPaletteChunk_profile`) -/
theorem satC_parseOldPaletteChunk (m : Profile) (scaled : Bool) :
    SatC A (fun p u => paletteSize p ≤ 11 * u) (parseOldPaletteChunk m scaled) := by
  rw [C16.parseOldPaletteChunk_profile m .release]
  unfold parseOldPaletteChunk
  satC_reads
  refine SatC_weaken (satC_parseOldPackets_release scaled _ _ _) (fun p n h => ?_)
  have : paletteSize Palette.empty = 0 := rfl
  omega

theorem pixelsFromBytes_ok {fmt : PixelFormat} {count n : Nat} {bytes : Bytes}
    (hn : outputSize fmt count = .ok n) (hb : bytes.length = n) :
    ROk (fun px => rawSize px = count ∧ rawPayload px = n) (pixelsFromBytes fmt bytes) := by
  intro px h
  unfold outputSize at hn
  split at hn <;> cases hn
  unfold pixelsFromBytes at h
  cases fmt with
  | indexed t => cases h; exact ⟨hb.trans (Nat.one_mul _), hb⟩
  | _ =>
      simp only [bne_iff_ne, ne_eq, ite_not] at h
      split at h
      · cases h
        simp only [rawPayload, rawSize, PixelFormat.bpp, List.size_toArray, groupGray_length,
          groupRgba_length] at hb ⊢
        omega
      · cases h

theorem satC_takeBytes (n : Nat) : SatC A (fun b u => u = n ∧ b.length = n) (takeBytes n) :=
  satC_take _ n

theorem satC_unzip (inflate : Inflate) (n : Nat) :
    SatC (InflNP inflate) (fun out u => out.length = n ∧
        (Alloc.ExpansionBounded inflate → out.length ≤ 1032 * u + 1032)) (unzip inflate n) := by
  intro bs
  unfold unzip
  cases hz : inflate bs with
  | ok out =>
      by_cases hne : (out.length != n) = true
      · simp only [hne, if_true]
      · simp only [hne]
        exact ⟨bs.length, by simp, by simpa using hne, fun hexp => hexp bs out hz⟩
  | err e => trivial
  | panic q => exact fun hi => hi bs q hz

theorem satC_pixelsFromRaw (fmt : PixelFormat) (count : Nat) :
    SatC A (fun px u => rawSize px = count ∧ rawPayload px = u) (pixelsFromRaw fmt count) := by
  unfold pixelsFromRaw
  refine SatC_bind_lift (fun _ => noPanic_outputSize _ _) (fun n hn => ?_)
  refine SatC_bind (satC_takeBytes n) (fun bytes n1 hb => ?_)
  refine SatC_lift (fun _ => noPanic_pixelsFromBytes _ _) (fun px hpx => ?_)
  obtain ⟨hsz, hpay⟩ := pixelsFromBytes_ok hn hb.2 px hpx
  exact ⟨hsz, by omega⟩

theorem satC_pixelsFromCompressed (inflate : Inflate) (fmt : PixelFormat) (count : Nat) :
    SatC (InflNP inflate) (fun px u => rawSize px = count ∧
        (Alloc.ExpansionBounded inflate → rawPayload px ≤ 1032 * u + 1032))
      (pixelsFromCompressed inflate fmt count) := by
  unfold pixelsFromCompressed
  refine SatC_bind_lift (fun _ => noPanic_outputSize _ _) (fun n hn => ?_)
  refine SatC_bind (satC_unzip inflate n) (fun bytes n1 hb => ?_)
  refine SatC_lift (fun _ => noPanic_pixelsFromBytes _ _) (fun px hpx => ?_)
  obtain ⟨hsz, hpay⟩ := pixelsFromBytes_ok hn hb.1 px hpx
  exact ⟨hsz, fun hexp => by have := hb.2 hexp; omega⟩

/-- 8 bytes per tile, from 4 inflated bytes per tile -/
theorem satC_parseTilemap (inflate : Inflate) :
    SatC (InflNP inflate) (fun t u => t.tiles.size = t.width.toNat * t.height.toNat ∧
        (Alloc.ExpansionBounded inflate → tilesPayload t ≤ 2064 * u + 2064))
      (parseTilemap inflate) := by
  unfold parseTilemap
  satC_reads
  refine SatC_ite _ (SatC_fail _) ?_
  satC_reads
  refine SatC_bind (satC_unzip inflate _) (fun bytes n1 hb => ?_)
  refine SatC_pure ⟨?_, fun hexp => ?_⟩
  · simp only [List.size_toArray, groupTiles_length, hb.1]
    omega
  · have := hb.2 hexp
    simp only [tilesPayload, List.size_toArray, groupTiles_length]
    omega

theorem satC_parseCelContent (inflate : Inflate) (fmt : PixelFormat) (celType : UInt16) :
    SatC (InflNP inflate) (fun c u => RawContentOk c ∧
        (Alloc.ExpansionBounded inflate → contentSize rawPayload c ≤ 2064 * u + 2064))
      (parseCelContent inflate fmt celType) := by
  unfold parseCelContent
  split
  · satC_reads
    refine SatC_bind (satC_pixelsFromRaw fmt _) (fun px n1 hpx => ?_)
    refine SatC_pure ⟨hpx.1, fun _ => ?_⟩
    simp only [contentSize]
    omega
  · satC_reads
    refine SatC_pure ⟨trivial, fun _ => ?_⟩
    simp only [contentSize]
    omega
  · satC_reads
    refine SatC_bind (satC_pixelsFromCompressed inflate fmt _) (fun px n1 hpx => ?_)
    refine SatC_pure ⟨hpx.1, fun hexp => ?_⟩
    have := hpx.2 hexp
    simp only [contentSize]
    omega
  · refine SatC_bind (satC_parseTilemap inflate) (fun t n1 ht => ?_)
    refine SatC_pure ⟨ht.1, fun hexp => ?_⟩
    have := ht.2 hexp
    simp only [contentSize]
    omega
  · exact SatC_fail _

/-- 2160 = 2064 (the content, `satC_parseCelContent`) + 96 (the fixed part of `celSize`) -/
theorem satC_parseCelChunk (inflate : Inflate) (fmt : PixelFormat) :
    SatC (InflNP inflate) (fun c u => RawContentOk c.content ∧ c.userData = none ∧
        (Alloc.ExpansionBounded inflate → celSize rawPayload c ≤ 2064 * u + 2160))
      (parseCelChunk inflate fmt) := by
  unfold parseCelChunk
  satC_reads
  refine SatC_bind (satC_parseCelContent inflate fmt _) (fun content n1 hc => ?_)
  refine SatC_pure ⟨hc.1, rfl, fun hexp => ?_⟩
  have := hc.2 hexp
  simp only [celSize, udSize]
  omega

/-- 1033 = 1032 (the pixels) + 1 (the name); 1120 = 1032 + 88 (the fixed part of `tilesetSize`) -/
theorem satC_parseTilesetChunk (inflate : Inflate) (fmt : PixelFormat) :
    SatC (InflNP inflate) (fun t u => RawTilesetOk t ∧
        (Alloc.ExpansionBounded inflate → tilesetSize rawPayload t ≤ 1033 * u + 1120))
      (parseTilesetChunk inflate fmt) := by
  unfold parseTilesetChunk
  satC_reads
  rename_i count tw th
  split
  · exact SatC_fail _
  rename_i hz
  simp only [Bool.or_eq_true, beq_iff_eq, not_or] at hz
  satC_reads
  refine SatC_bind satC_readString (fun name n1 hn => ?_)
  refine SatC_ite_bind (P := fun _ _ => True) _ ?_ (SatC_pure trivial) (fun ext n2 _ => ?_)
  · satC_reads
    exact SatC_pure trivial
  refine SatC_ite_bind
    (P := fun o u => (∀ px, o = some px → rawSize px = count.toNat * th.toNat * tw.toNat) ∧
      (Alloc.ExpansionBounded inflate → optPay rawPayload o ≤ 1032 * u + 1032)) _ ?_
    (SatC_pure ⟨fun _ h => (by cases h), fun _ => by simp [optPay]⟩) (fun pixels n3 hp => ?_)
  · satC_reads
    refine SatC_ite _ (SatC_fail _) ?_
    refine SatC_bind (satC_pixelsFromCompressed inflate fmt _) (fun px n hpx => ?_)
    refine SatC_pure ⟨fun px' h => (by cases h; exact hpx.1), fun hexp => ?_⟩
    have := hpx.2 hexp
    simp only [optPay]
    omega
  refine SatC_pure ⟨⟨?_, ?_, fun px h => ?_⟩, fun hexp => ?_⟩
  · simp only; omega
  · simp only; omega
  · rw [hp.1 px h, Nat.mul_assoc, Nat.mul_assoc, Nat.mul_comm th.toNat]
  · have := hp.2 hexp
    simp only [tilesetSize]
    omega

theorem satC_parseColorProfileChunk : SatC A (fun _ _ => True) parseColorProfileChunk := by
  unfold parseColorProfileChunk
  satC_reads
  refine SatC_ite _ (SatC_fail _) (SatC_ite _ (SatC_fail _) (SatC_ite _ (SatC_fail _) ?_))
  exact SatC_pure trivial

/-- the cheapest arm of `chunkCost`: (4 n + 128) + (64 n + 1024) -/
theorem le_chunkCost (c : Chunk) : 68 * c.data.length + 1152 ≤ Alloc.chunkCost c := by
  unfold Alloc.chunkCost
  split
  · omega
  · omega
  · split <;> omega
  · omega

/-- the arm of `chunkCost` for the two kinds of chunk that inflate:
    (4 n + 128) + 7 (1032 n + 1032) + 2048; it covers what their decoders may deliver, at most
    2064 n + 2160 (`satC_parseCelChunk`, `satC_parseTilesetChunk`) -/
theorem chunkCost_inflated (c : Chunk) (h : c.ty = .cel ∨ c.ty = .tileset) :
    Alloc.chunkCost c = 7228 * c.data.length + 9400 := by
  unfold Alloc.chunkCost
  rcases h with h | h
  · simp only [h]
    omega
  · simp only [h]
    omega

/-- a layer counts its entry of the `parents` table too (the `+ 8`) -/
def itemSize : Spec.SItem → Nat
  | .layer l => layerSize l + 8
  | .cel c => celSize rawPayload c
  | .tags ts => sumBy tagSize ts
  | .slice s => sliceSize s
  | .palette p => paletteSize p
  | .oldPalette p => paletteSize p
  | .userData u => udSize (some u)
  | .extFiles fs => sumBy extFileSize fs
  | .tileset t => tilesetSize rawPayload t
  | .noop => 0

/-- what C05's invariant needs of a decoded item -/
def _root_.Ase.Proofs.C05.ItemOk : Spec.SItem → Prop
  | .cel c => RawContentOk c.content
  | .tileset t => RawTilesetOk t
  | _ => True

/-- The decoders' statements together, as one statement about `Machine.decodeChunk`: no panic
    (C04, under `InflNP inflate`), exact buffer sizes (C05), and a decoded item is covered by the
    account of its chunk (C12, under `Alloc.ExpansionBounded inflate`). -/
theorem decodeChunk_spec (inflate : Inflate) (m : Profile) (fmt : PixelFormat) (palNone : Bool)
    (c : Chunk) :
    RSatA (InflNP inflate)
      (fun it => ItemOk it ∧ (Alloc.ExpansionBounded inflate → itemSize it ≤ Alloc.chunkCost c))
      (Machine.decodeChunk inflate m fmt palNone c) := by
  have hge := le_chunkCost c
  have old : ∀ scaled, RSatA (InflNP inflate)
      (fun it => ItemOk it ∧ (Alloc.ExpansionBounded inflate → itemSize it ≤ Alloc.chunkCost c))
      (if palNone then (runChunk (parseOldPaletteChunk m scaled) c.data).map .oldPalette
       else .ok (.oldPalette Palette.empty)) := fun scaled => by
    split
    · exact (satC_parseOldPaletteChunk m scaled).decode _ _ fun p n hn hq =>
        ⟨trivial, fun _ => by simp only [itemSize]; omega⟩
    · exact ⟨trivial, fun _ => Nat.zero_le _⟩
  unfold Machine.decodeChunk
  -- the arms in the order of the match; the last three are `.celExtra`, `.mask`, `.path`
  split
  · exact satC_parseColorProfileChunk.decode _ _ fun _ _ _ _ => ⟨trivial, fun _ => Nat.zero_le _⟩
  · exact satC_parsePaletteChunk.decode _ _ fun p n hn hq =>
      ⟨trivial, fun _ => by simp only [itemSize]; omega⟩
  · exact satC_parseLayerChunk.decode _ _ fun l n hn hq =>
      ⟨trivial, fun _ => by simp only [itemSize]; omega⟩
  · rename_i hty
    have := chunkCost_inflated c (.inl hty)
    exact (satC_parseCelChunk inflate fmt).decode _ _ fun cel n hn hq =>
      ⟨hq.1, fun hexp => by have := hq.2.2 hexp; simp only [itemSize]; omega⟩
  · exact satC_parseExternalFilesChunk.decode _ _ fun fs n hn hq =>
      ⟨trivial, fun _ => by simp only [itemSize]; omega⟩
  · exact satC_parseTagsChunk.decode _ _ fun ts n hn hq =>
      ⟨trivial, fun _ => by simp only [itemSize]; omega⟩
  · exact satC_parseSliceChunk.decode _ _ fun s n hn hq =>
      ⟨trivial, fun _ => by simp only [itemSize]; omega⟩
  · exact satC_parseUserDataChunk.decode _ _ fun u n hn hq =>
      ⟨trivial, fun _ => by simp only [itemSize]; omega⟩
  · exact old false
  · exact old true
  · rename_i hty
    have := chunkCost_inflated c (.inr hty)
    exact (satC_parseTilesetChunk inflate fmt).decode _ _ fun t n hn hq =>
      ⟨hq.1, fun hexp => by have := hq.2 hexp; simp only [itemSize]; omega⟩
  · exact ⟨trivial, fun _ => Nat.zero_le _⟩
  · exact ⟨trivial, fun _ => Nat.zero_le _⟩
  · exact ⟨trivial, fun _ => Nat.zero_le _⟩

end Ase.Proofs.C12

namespace Ase.Proofs.C05
open Ase Ase.Proofs.C12

theorem parseLayerChunk_noUserData : Post (fun l => l.userData = none) parseLayerChunk :=
  (satC_parseLayerChunk (A := True)).post (fun _ _ h => h.1)

theorem parseSliceChunk_noUserData : Post (fun s => s.userData = none) parseSliceChunk :=
  (satC_parseSliceChunk (A := True)).post (fun _ _ h => h.1)

theorem parseCelChunk_noUserData (inflate : Inflate) (fmt : PixelFormat) :
    Post (fun c => c.userData = none) (parseCelChunk inflate fmt) :=
  (satC_parseCelChunk inflate fmt).post (fun _ _ h => h.2.1)

theorem parseTagsChunk_tags :
    Post (fun ts => ∀ t ∈ ts, t.direction ≤ 2 ∧ t.userData = none) parseTagsChunk :=
  (satC_parseTagsChunk (A := True)).post (fun _ _ h => h.1)

end Ase.Proofs.C05
