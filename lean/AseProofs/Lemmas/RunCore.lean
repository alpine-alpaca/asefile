import AseProofs.Lemmas.Machine
import AseProofs.Lemmas.Assoc
/-
  The state of `Spec.runFrames` modulo user data, context, frame times and the cel table
  (`core`).  On the core one item is a total function of the core alone (`coreStep`,
  `stepSem_core`), so every field of the core of the final state is a fold over the items
  (`runFrames_core_fold`); the rest of the file evaluates that fold field by field.  The cel
  table is in `RunCels.lean`, the frame times in `Run.lean`.
-/
namespace Ase.Proofs.WholeFile
open Ase Ase.Proofs

def stripL (l : LayerData) : LayerData := { l with userData := none }
def stripS (s : Slice) : Slice := { s with userData := none }
def stripT (t : Tag) : Tag := { t with userData := none }

def layerItem? : Spec.SItem → Option LayerData
  | .layer l => some l
  | _ => none

def sliceItem? : Spec.SItem → Option Slice
  | .slice s => some s
  | _ => none

def tagsItem? : Spec.SItem → Option (List Tag)
  | .tags ts => some ts
  | _ => none

def layerItems (its : List Spec.SItem) : List LayerData := its.filterMap layerItem?
def sliceItems (its : List Spec.SItem) : List Slice := its.filterMap sliceItem?

def lastTagsItem (its : List Spec.SItem) : Option (List Tag) := (its.filterMap tagsItem?).getLast?

def allItems (frames : List (UInt16 × List Spec.SItem)) : List Spec.SItem :=
  frames.flatMap (·.2)

/-- the state without the cel table, the frame times, the user-data context and all attached user
    data -/
def core (pi : ParseInfo) : ParseInfo :=
  { pi with layers := pi.layers.map stripL, slices := pi.slices.map stripS,
            tags := pi.tags.map (·.map stripT), cels := #[], frameTimes := #[],
            spriteUserData := none, ctx := none }

/-- total: whether a cel or user-data item is accepted depends on what the core leaves out, and
    neither changes the core -/
def coreStep (frame : Nat) (b : ParseInfo) : Spec.SItem → ParseInfo
  | .layer l => { b with layers := b.layers.push (stripL l) }
  | .tags ts => { b with tags := if frame == 0 then some (ts.toArray.map stripT) else b.tags }
  | .slice s => { b with slices := b.slices.push (stripS s) }
  | .palette p => { b with palette := some p }
  | .oldPalette p => { b with palette := if b.palette.isNone then some p else b.palette }
  | .extFiles fs => { b with extFiles := addExtFiles b.extFiles fs }
  | .tileset t => { b with tilesets := assocInsert t.id.toNat t b.tilesets }
  | .cel _ | .userData _ | .noop => b

theorem addUserData_core {pi pi' : ParseInfo} {u : UserData} (h : pi.addUserData u = .ok pi') :
    core pi' = core pi := by
  cases Machine.addUserData_eq_ok h with
  | layer _ ha =>
      simp only [core,
        map_set!_of_eq stripL (fun l => { l with userData := some u }) (fun _ => rfl) ha]
  | tag _ htags ha =>
      simp only [core, htags, Option.map_some,
        map_set!_of_eq stripT (fun t => { t with userData := some u }) (fun _ => rfl) ha]
  | slice _ ha =>
      simp only [core,
        map_set!_of_eq stripS (fun s => { s with userData := some u }) (fun _ => rfl) ha]
  | _ => rfl

theorem addCel_core {pi pi' : ParseInfo} {frame : Nat} {c : RawCel RawPixels}
    (h : pi.addCel frame c = .ok pi') : core pi' = core pi := by
  obtain ⟨_, _, _, rfl⟩ := Machine.addCel_eq_ok h
  rfl

/-- a successful step acts on the core as `coreStep`.  The only place where the steps of the state
    machine are gone through case by case for what they do to the fields of the core. -/
theorem stepSem_core {frame : Nat} {pi pi' : ParseInfo} {it : Spec.SItem}
    (h : Spec.stepSem frame pi it = .ok pi') : core pi' = coreStep frame (core pi) it := by
  cases it with
  | cel c => exact addCel_core h
  | userData u => exact addUserData_core h
  | tags ts =>
      rw [stepSem_tags] at h
      cases h
      simp only [coreStep]
      cases frame == 0 <;> rfl
  | oldPalette p =>
      rw [stepSem_oldPalette] at h
      cases h
      rfl
  | layer l =>
      cases h
      simp only [core, Array.map_push, coreStep]
  | slice s =>
      cases h
      simp only [core, Array.map_push, coreStep]
  | _ =>
      cases h
      rfl

theorem runFrames_core_fold {β : Type} (p : ParseInfo → β) (step : β → Spec.SItem → β)
    (hstep : ∀ frame b it, p (coreStep frame b it) = step (p b) it)
    (frames : List (UInt16 × List Spec.SItem)) {k : Nat} {pi pi' : ParseInfo}
    (h : Spec.runFrames k pi frames = .ok pi') :
    p (core pi') = (allItems frames).foldl step (p (core pi)) :=
  runFrames_rel (fun pi b => p (core pi) = b) step (fun _ _ _ hr => hr) frames
    (fun _ _ _ _ _ _ _ _ _ hs hr => by rw [stepSem_core hs, hstep, hr]) h rfl

theorem runFrames_layers (frames : List (UInt16 × List Spec.SItem))
    {k : Nat} {pi pi' : ParseInfo} (h : Spec.runFrames k pi frames = .ok pi') :
    (core pi').layers.toList =
      (core pi).layers.toList ++ (layerItems (allItems frames)).map stripL := by
  rw [runFrames_core_fold (·.layers.toList)
    (fun b it => b ++ ((layerItem? it).map stripL).toList) ?_ frames h,
    foldl_append_filterMap, layerItems, List.map_filterMap]
  intro frame b it
  cases it <;> simp [coreStep, layerItem?]

theorem runFrames_slices (frames : List (UInt16 × List Spec.SItem))
    {k : Nat} {pi pi' : ParseInfo} (h : Spec.runFrames k pi frames = .ok pi') :
    (core pi').slices.toList =
      (core pi).slices.toList ++ (sliceItems (allItems frames)).map stripS := by
  rw [runFrames_core_fold (·.slices.toList)
    (fun b it => b ++ ((sliceItem? it).map stripS).toList) ?_ frames h,
    foldl_append_filterMap, sliceItems, List.map_filterMap]
  intro frame b it
  cases it <;> simp [coreStep, sliceItem?]

theorem runFrames_tags {d : UInt16} {its : List Spec.SItem} {rest : List (UInt16 × List Spec.SItem)}
    {pi pi' : ParseInfo} (h : Spec.runFrames 0 pi ((d, its) :: rest) = .ok pi')
    (h0 : pi.tags = none) :
    (core pi').tags = (lastTagsItem its).map (·.toArray.map stripT) := by
  obtain ⟨q, hq, hrest⟩ := runFrames_cons_eq_ok h
  -- frame 0: the last tags item wins
  have h1 := runItems_rel (fun x b => (core x).tags = b)
    (fun t it => ((tagsItem? it).map (·.toArray.map stripT)).or t) 0 its ?_ hq rfl
  -- frames 1, 2, … leave the tags alone
  have h2 := runFrames_inv (fun x => (core x).tags = (core q).tags) rest ?_ (fun _ _ hp => hp)
    hrest rfl
  · rw [h2, h1, foldl_or_getLast, lastTagsItem, ← List.map_filterMap, List.getLast?_map]
    simp [core, h0]
  -- a later frame: `coreStep (n + 1)` keeps the tags by computation
  · intro _ _ it _ frame hf x x' hs hx
    obtain ⟨n, rfl⟩ : ∃ n, frame = n + 1 := ⟨frame - 1, by omega⟩
    rw [stepSem_core hs, ← hx]
    cases it <;> rfl
  · intro it _ x x' b hs hx
    rw [stepSem_core hs, ← hx]
    cases it <;> simp [coreStep, tagsItem?]

end Ase.Proofs.WholeFile

/- Palette, external files and tilesets are in `More`, the namespace of `RunCels.lean` and
   `ValidateTables.lean`, with whose facts they are used (`Props/C01Tables.lean`). -/
namespace Ase.Proofs.More
open Ase Ase.Proofs Ase.Proofs.WholeFile

def palItem? : Spec.SItem → Option Palette
  | .palette p => some p
  | _ => none

def oldPalItem? : Spec.SItem → Option Palette
  | .oldPalette p => some p
  | _ => none

def palStep (p : Option Palette) : Spec.SItem → Option Palette
  | .palette q => some q
  | .oldPalette q => if p.isNone then some q else p
  | _ => p

/-- the last new-format palette wins; failing that, the first legacy palette; failing that, what
    was there before -/
theorem foldl_palStep (its : List Spec.SItem) : ∀ (p : Option Palette),
    its.foldl palStep p =
      ((its.filterMap palItem?).getLast?).or (p.or (its.filterMap oldPalItem?).head?) := by
  induction its with
  | nil =>
      intro p
      simp only [List.foldl_nil, List.filterMap_nil, List.getLast?_nil, List.head?_nil,
        Option.or_none, Option.none_or]
  | cons it rest ih =>
      intro p
      rw [List.foldl_cons, ih]
      cases it with
      | palette q =>
          simp only [palStep, List.filterMap_cons, palItem?, oldPalItem?, List.getLast?_cons,
            Option.some_or]
          cases (List.filterMap palItem? rest).getLast? <;> simp
      | oldPalette q =>
          simp only [palStep, List.filterMap_cons, palItem?, oldPalItem?, List.head?_cons]
          cases p <;> simp
      | _ => simp only [palStep, List.filterMap_cons, palItem?, oldPalItem?]

theorem runFrames_palette (frames : List (UInt16 × List Spec.SItem)) {k : Nat}
    {pi pi' : ParseInfo} (h : Spec.runFrames k pi frames = .ok pi') :
    pi'.palette = (allItems frames).foldl palStep pi.palette :=
  runFrames_core_fold (·.palette) palStep (fun _ _ it => by cases it <;> rfl) frames h

def insertAll {α : Type} (m : List (Nat × α)) (kvs : List (Nat × α)) : List (Nat × α) :=
  kvs.foldl (fun m kv => assocInsert kv.1 kv.2 m) m

theorem insertAll_append {α : Type} (m : List (Nat × α)) (a b : List (Nat × α)) :
    insertAll m (a ++ b) = insertAll (insertAll m a) b := by
  simp only [insertAll, List.foldl_append]

theorem assocGet?_insertAll {α : Type} (k : Nat) (kvs : List (Nat × α)) (m : List (Nat × α)) :
    assocGet? k (insertAll m kvs) =
      (((kvs.filter (fun kv => kv.1 == k)).getLast?).map (·.2)).or (assocGet? k m) :=
  assocGet?_foldl_insert (fun kv : Nat × α => kv.1) (fun kv => kv.2) k kvs m

theorem foldl_insertAll {α β : Type} (kvs : β → List (Nat × α)) (its : List β) :
    ∀ (m : List (Nat × α)),
      its.foldl (fun m it => insertAll m (kvs it)) m = insertAll m (its.flatMap kvs) := by
  induction its with
  | nil =>
      intro m
      rfl
  | cons it rest ih =>
      intro m
      rw [List.foldl_cons, ih, List.flatMap_cons, insertAll_append]

def extFilesOf : Spec.SItem → List ExternalFile
  | .extFiles fs => fs
  | _ => []

def extEntries (its : List Spec.SItem) : List ExternalFile := its.flatMap extFilesOf

def extKV (f : ExternalFile) : Nat × ExternalFile := (f.id.toNat, f)

theorem addExtFiles_eq (fs : List ExternalFile) : ∀ (m : List (Nat × ExternalFile)),
    addExtFiles m fs = insertAll m (fs.map extKV) := by
  induction fs with
  | nil =>
      intro m
      rfl
  | cons f t ih =>
      intro m
      simp only [addExtFiles, ih]
      rfl

theorem runFrames_extFiles (frames : List (UInt16 × List Spec.SItem)) {k : Nat}
    {pi pi' : ParseInfo} (h : Spec.runFrames k pi frames = .ok pi') :
    pi'.extFiles = insertAll pi.extFiles ((extEntries (allItems frames)).map extKV) := by
  rw [extEntries, List.map_flatMap, ← foldl_insertAll]
  refine runFrames_core_fold (·.extFiles) _ (fun _ b it => ?_) frames h
  cases it
  case extFiles fs => exact addExtFiles_eq _ _
  all_goals rfl

def tilesetItem? : Spec.SItem → Option (Tileset RawPixels)
  | .tileset t => some t
  | _ => none

def tilesetItems (its : List Spec.SItem) : List (Tileset RawPixels) := its.filterMap tilesetItem?

def tsKV (t : Tileset RawPixels) : Nat × Tileset RawPixels := (t.id.toNat, t)

theorem runFrames_tilesets (frames : List (UInt16 × List Spec.SItem)) {k : Nat}
    {pi pi' : ParseInfo} (h : Spec.runFrames k pi frames = .ok pi') :
    pi'.tilesets = insertAll pi.tilesets ((tilesetItems (allItems frames)).map tsKV) := by
  rw [tilesetItems, map_filterMap_eq_flatMap, ← foldl_insertAll]
  exact runFrames_core_fold (·.tilesets) _
    (fun _ _ it => by cases it <;> rfl) frames h

theorem getLast?_filter_kv {α : Type} (key : α → Nat) (l : List α) (k : Nat) :
    (((l.map (fun a => (key a, a))).filter (fun kv => kv.1 == k)).getLast?).map (·.2) =
      (l.filter (fun a => key a == k)).getLast? := by
  rw [List.filter_map, List.getLast?_map, Option.map_map]
  have : ((fun kv : Nat × α => kv.2) ∘ fun a => (key a, a)) = id := rfl
  rw [this, Option.map_id]
  rfl

end Ase.Proofs.More
