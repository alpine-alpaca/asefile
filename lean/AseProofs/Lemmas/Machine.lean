import AseProofs.Lemmas.Run
import AseProofs.Lemmas.Post
/-
  `processChunk` is `decodeChunk` (the chunk type's decoder on the payload; the only state it
  looks at is whether a palette is stored) followed by `Spec.stepSem` (the decoded item's effect
  on the state; no bytes).  So an invariant of the load path is an invariant of `stepSem` plus a
  postcondition of the decoders (`parseFrames_induct`).
-/
namespace Ase.Proofs.Machine
open Ase Ase.Spec Ase.Proofs.WholeFile Ase.Proofs.C05

/-- `palNone` = "no palette is stored yet": a legacy palette chunk is decoded only then (otherwise
    `stepSem` ignores the item's palette, so any will do).  `C10.decodeEv` (`AttachSim.lean`) is
    the same match with the attachment event of the chunk in place of the item; it feeds the
    abstract attachment state `AState`, this one feeds `Spec.stepSem`. -/
def decodeChunk (inflate : Inflate) (m : Profile) (fmt : PixelFormat) (palNone : Bool)
    (c : Chunk) : Res SItem :=
  match c.ty with
  | .colorProfile => (runChunk parseColorProfileChunk c.data).map fun _ => .noop
  | .palette => (runChunk parsePaletteChunk c.data).map .palette
  | .layer => (runChunk parseLayerChunk c.data).map .layer
  | .cel => (runChunk (parseCelChunk inflate fmt) c.data).map .cel
  | .externalFiles => (runChunk parseExternalFilesChunk c.data).map .extFiles
  | .tags => (runChunk parseTagsChunk c.data).map .tags
  | .slice => (runChunk parseSliceChunk c.data).map .slice
  | .userData => (runChunk parseUserDataChunk c.data).map .userData
  | .oldPalette04 =>
      if palNone then (runChunk (parseOldPaletteChunk m false) c.data).map .oldPalette
      else .ok (.oldPalette Palette.empty)
  | .oldPalette11 =>
      if palNone then (runChunk (parseOldPaletteChunk m true) c.data).map .oldPalette
      else .ok (.oldPalette Palette.empty)
  | .tileset => (runChunk (parseTilesetChunk inflate fmt) c.data).map .tileset
  | .celExtra | .mask | .path => .ok .noop

theorem processChunk_eq (inflate : Inflate) (m : Profile) (fmt : PixelFormat) (frame : Nat)
    (pi : ParseInfo) (c : Chunk) :
    processChunk inflate m fmt frame pi c =
      decodeChunk inflate m fmt pi.palette.isNone c >>= stepSem frame pi := by
  obtain ⟨ty, data⟩ := c
  -- both sides are `decoder >>= continuation` with the same continuation
  cases ty <;> simp only [processChunk, decodeChunk, Res.map_bind]
  case oldPalette04 | oldPalette11 =>
    -- decoded only when no palette is stored; `stepSem` takes the item's palette only then
    cases hp : pi.palette.isNone <;>
      simp only [if_true, if_false, Bool.false_eq_true, Res.map_bind, Res.bind_ok, stepSem, hp] <;>
      rfl
  all_goals rfl

theorem processChunk_eq_ok {inflate : Inflate} {m : Profile} {fmt : PixelFormat} {frame : Nat}
    {pi pi' : ParseInfo} {c : Chunk} (h : processChunk inflate m fmt frame pi c = .ok pi') :
    ∃ it, decodeChunk inflate m fmt pi.palette.isNone c = .ok it ∧
      stepSem frame pi it = .ok pi' :=
  Res.bind_eq_ok (processChunk_eq .. ▸ h)

theorem addCel_eq_ok {pi pi' : ParseInfo} {frame : Nat} {cel : RawCel RawPixels}
    (h : pi.addCel frame cel = .ok pi') :
    ∃ row, pi.cels[frame]? = some row ∧ FrameCels.get? cel.data.layerIndex.toNat row = none ∧
      pi' = { pi with
        cels := pi.cels.set! frame (FrameCels.insert cel.data.layerIndex.toNat cel row),
        ctx := some (.cel frame cel.data.layerIndex.toNat) } := by
  rw [addCel_eq] at h
  obtain ⟨cels, hc, rfl⟩ := Res.map_eq_ok h
  unfold addCelRows at hc
  split at hc
  · cases hc
  · rename_i row hrow
    split at hc <;> cases hc
    rename_i hget
    exact ⟨row, hrow, by simpa only [Bool.not_eq_true, Option.isSome_eq_false_iff,
      Option.isNone_iff_eq_none] using hget, rfl⟩

/-- the five ways `addUserData` succeeds, one per context -/
inductive AddsUD (pi : ParseInfo) (ud : UserData) : ParseInfo → Prop
  | cel {f l row c} : pi.ctx = some (.cel f l) → pi.cels[f]? = some row →
      FrameCels.get? l row = some c →
      AddsUD pi ud { pi with
        cels := pi.cels.set! f (FrameCels.modify l (fun c => { c with userData := some ud }) row) }
  | layer {i a} : pi.ctx = some (.layer i) → pi.layers[i]? = some a →
      AddsUD pi ud { pi with layers := pi.layers.set! i { a with userData := some ud } }
  | sprite : pi.ctx = some .oldPalette → AddsUD pi ud { pi with spriteUserData := some ud }
  | tag {i tags a} : pi.ctx = some (.tag i) → pi.tags = some tags → tags[i]? = some a →
      AddsUD pi ud { pi with
        tags := some (tags.set! i { a with userData := some ud }), ctx := some (.tag (i + 1)) }
  | slice {i a} : pi.ctx = some (.slice i) → pi.slices[i]? = some a →
      AddsUD pi ud { pi with slices := pi.slices.set! i { a with userData := some ud } }

theorem addUserData_eq_ok {pi pi' : ParseInfo} {ud : UserData}
    (h : pi.addUserData ud = .ok pi') : AddsUD pi ud pi' := by
  unfold ParseInfo.addUserData at h
  split at h
  · cases h
  · rename_i f l hctx
    split at h
    · cases h
    · rename_i row hrow
      split at h
      · cases h
      · rename_i c hc
        cases h
        exact .cel hctx hrow hc
  · rename_i i hctx
    split at h
    · cases h
    · rename_i ls hls
      cases h
      obtain ⟨a, ha, rfl⟩ := setUD_eq_some.mp hls
      exact .layer hctx ha
  · rename_i hctx
    cases h
    exact .sprite hctx
  · rename_i i hctx
    split at h
    · cases h
    · rename_i tags htags
      split at h
      · cases h
      · rename_i ts hts
        cases h
        obtain ⟨a, ha, rfl⟩ := setUD_eq_some.mp hts
        exact .tag hctx htags ha
  · rename_i i hctx
    split at h
    · cases h
    · rename_i ss hss
      cases h
      obtain ⟨a, ha, rfl⟩ := setUD_eq_some.mp hss
      exact .slice hctx ha

section frames
variable {σ : Type} {S : Src σ} {inflate : Inflate} {m : Profile} {fmt : PixelFormat}
  {I : ParseInfo → Prop} {D : SItem → Prop}
  (hD : ∀ palNone c it, decodeChunk inflate m fmt palNone c = .ok it → D it)
  (hft : ∀ pi ft, I pi → I { pi with frameTimes := ft })
  (hstep : ∀ frame pi it pi', I pi → D it → stepSem frame pi it = .ok pi' → I pi')
include hD hstep

theorem rok_processChunks (frame : Nat) : ∀ (cs : List Chunk) (pi : ParseInfo), I pi →
    ROk I (processChunks inflate m fmt frame pi cs)
  | [], _, hI => rok_ok hI
  | c :: cs, pi, hI => by
      rw [processChunks_cons, processChunk_eq]
      exact ROk.bind (ROk.bind (hD _ c) fun it hd pi' => hstep frame pi it pi' hI hd)
        (rok_processChunks frame cs)

include hft

/-- Partial correctness only: what holds after a load that succeeded.  `D` is what `hstep` needs to
    know about decoded items; `hD` comes from the decoders' postconditions
    (`C12.decodeChunk_spec`), `hstep` goes through `addCel_eq_ok` and `AddsUD`
    (`C05.pinv_stepSem`).  `hstep` is for every `frame`, and `D` does not know that
    `palNone = pi.palette.isNone`; `hft`: `I` does not look at the frame times; the arguments
    come in the order `hD hft hstep`.  Absence of panics and the byte accounting have inductions of
    their own (`NoPanicParse.lean`, `FootprintMachine.lean`). -/
theorem parseFrames_induct : ∀ {n frame : Nat} {pi : ParseInfo}, I pi →
    Post I (parseFrames S inflate m fmt n frame pi)
  | 0, _, _, hI => Post_pure hI
  | _ + 1, frame, _, hI =>
      -- `parseFrame` (header, chunks, `processChunks`), then the remaining frames
      Post_bind (Post_bind_any fun _ => Post_bind_any fun cs =>
        Post_lift (rok_processChunks hD hstep frame cs _ (hft _ _ hI))) fun _ => parseFrames_induct

end frames

end Ase.Proofs.Machine

/- `processChunk_tags` serves C10 and C15 and carries C10's namespace, like the tag lemmas of the
   attachment files it is used with. -/
namespace Ase.Proofs.C10
open Ase Ase.Proofs.Machine

theorem processChunk_tags {inflate : Inflate} {m : Profile} {fmt : PixelFormat} {frame : Nat}
    {pi : ParseInfo} {c : Chunk} (hty : c.ty = .tags) :
    processChunk inflate m fmt frame pi c =
      (runChunk parseTagsChunk c.data).map (fun ts =>
        if frame = 0 then { pi with tags := some ts.toArray, ctx := some (.tag 0) } else pi) := by
  rw [processChunk_eq]
  simp only [decodeChunk, hty]
  cases runChunk parseTagsChunk c.data with
  | ok ts =>
      by_cases hf : frame = 0 <;>
        simp only [Res.map_ok, Res.bind_ok, Spec.stepSem, beq_iff_eq, hf, if_true, if_false]
  | err e => rfl
  | panic p => rfl

end Ase.Proofs.C10
