import AseProofs.Lemmas.BlendInt
import Mathlib.Tactic.NormNum
/-!
  The exact-arithmetic instance of `FOps` and the range lemmas over `ℚ` behind C17 (e).

  Scope, here and in `Props/C17Exact.lean`: the floating-point parameter of the blend model is
  the field `ℚ` with exact `+ - * /` (and Lean's `x / 0 = 0`), lattice `max`/`min`, the literals
  `1/4, 1/2, 3/10, 59/100, 11/100`, casts that truncate toward zero and saturate, and for `sqrt`
  ANY function with `0 ≤ x ≤ 1 → x ≤ sqrt x ≤ 1` (`SqrtOk`; `ℚ` has no square roots).  The gap to
  IEEE-754 binary64 (each operation rounds: a few ulp of accumulated error against the margins
  `-1 < c*255 < 256` of the truncating cast and `r*255 + 0.5 < 256` of soft light) is NOT covered
  by these theorems.
-/
namespace Ase.Proofs
open Ase Ase.Blend

def trunc (x : ℚ) : Int := if 0 ≤ x then x.floor else x.ceil

/-- `as i32`: truncation toward zero, saturating at the `i32` range -/
def exactToI32 (x : ℚ) : Int := max (-2147483648) (min 2147483647 (trunc x))

/-- `as u32`: truncation toward zero, saturating at `0 .. 2^32-1` -/
def exactToU32 (x : ℚ) : Nat := (max 0 (min 4294967295 (trunc x))).toNat

def exactOps (sqrt : ℚ → ℚ) : FOps ℚ where
  add a b := a + b
  sub a b := a - b
  mul a b := a * b
  div a b := a / b
  sqrt := sqrt
  max a b := max a b
  min a b := min a b
  lt a b := decide (a < b)
  le a b := decide (a ≤ b)
  ofInt n := (n : ℚ)
  toI32 := exactToI32
  toU32 := exactToU32
  c0_25 := 1 / 4
  c0_5 := 1 / 2
  c0_3 := 3 / 10
  c0_59 := 59 / 100
  c0_11 := 11 / 100

/-- what is assumed of the square-root function (true of the real square root; only
    `0 ≤ sqrt x ≤ 1` is used) -/
def SqrtOk (sqrt : ℚ → ℚ) : Prop := ∀ x : ℚ, 0 ≤ x → x ≤ 1 → x ≤ sqrt x ∧ sqrt x ≤ 1

/-- non-vacuity: the constant 1 is such a function -/
example : SqrtOk fun _ => 1 := fun _ _ h1 => ⟨h1, le_rfl⟩

section simp_lemmas
variable (q : ℚ → ℚ)
-- `by rfl`, not the term `rfl`, for `lt`, `le` and `toU32`: a theorem proved by the term is also
-- validated as a `dsimp` lemma, a check at full transparency that unfolds the order of `ℚ`
-- (14M heartbeats for `toU32`, whose right side is a `Nat`); `simp` uses the lemmas either way
@[simp] theorem exactOps_add (a b : ℚ) : (exactOps q).add a b = a + b := rfl
@[simp] theorem exactOps_sub (a b : ℚ) : (exactOps q).sub a b = a - b := rfl
@[simp] theorem exactOps_mul (a b : ℚ) : (exactOps q).mul a b = a * b := rfl
@[simp] theorem exactOps_div (a b : ℚ) : (exactOps q).div a b = a / b := rfl
@[simp] theorem exactOps_sqrt (a : ℚ) : (exactOps q).sqrt a = q a := rfl
@[simp] theorem exactOps_max (a b : ℚ) : (exactOps q).max a b = max a b := rfl
@[simp] theorem exactOps_min (a b : ℚ) : (exactOps q).min a b = min a b := rfl
@[simp] theorem exactOps_lt (a b : ℚ) : (exactOps q).lt a b = decide (a < b) := by rfl
@[simp] theorem exactOps_le (a b : ℚ) : (exactOps q).le a b = decide (a ≤ b) := by rfl
@[simp] theorem exactOps_ofInt (n : Int) : (exactOps q).ofInt n = (n : ℚ) := rfl
@[simp] theorem exactOps_toI32 (a : ℚ) : (exactOps q).toI32 a = exactToI32 a := rfl
@[simp] theorem exactOps_toU32 (a : ℚ) : (exactOps q).toU32 a = exactToU32 a := by rfl
@[simp] theorem exactOps_c0_25 : (exactOps q).c0_25 = 1 / 4 := rfl
@[simp] theorem exactOps_c0_5 : (exactOps q).c0_5 = 1 / 2 := rfl
@[simp] theorem exactOps_c0_3 : (exactOps q).c0_3 = 3 / 10 := rfl
@[simp] theorem exactOps_c0_59 : (exactOps q).c0_59 = 59 / 100 := rfl
@[simp] theorem exactOps_c0_11 : (exactOps q).c0_11 = 11 / 100 := rfl
end simp_lemmas

theorem trunc_range {x : ℚ} {n : Int} (h0 : 0 ≤ x) (h1 : x < (n : ℚ) + 1) :
    0 ≤ trunc x ∧ trunc x ≤ n := by
  unfold trunc
  rw [if_pos h0]
  constructor
  · exact Rat.le_floor_iff.mpr (by exact_mod_cast h0)
  · have : x.floor < n + 1 := Rat.floor_lt_iff.mpr (by exact_mod_cast h1)
    omega

theorem exactToI32_byte {x : ℚ} (h0 : 0 ≤ x) (h1 : x ≤ 255) :
    0 ≤ exactToI32 x ∧ exactToI32 x ≤ 255 := by
  have := trunc_range (n := 255) h0 (by push_cast; linarith)
  unfold exactToI32
  omega

theorem exactToU32_byte {x : ℚ} (h0 : 0 ≤ x) (h1 : x < 256) :
    0 ≤ (exactToU32 x : Int) ∧ (exactToU32 x : Int) ≤ 255 := by
  have := trunc_range (n := 255) h0 (by push_cast; linarith)
  unfold exactToU32
  omega

theorem int_unit {x : Int} (h : 0 ≤ x ∧ x ≤ 255) :
    0 ≤ (x : ℚ) / 255 ∧ (x : ℚ) / 255 ≤ 1 := by
  have h0' : (0 : ℚ) ≤ x := by exact_mod_cast h.1
  have h1' : (x : ℚ) ≤ 255 := by exact_mod_cast h.2
  exact ⟨div_nonneg h0' (by norm_num), (div_le_one₀ (by norm_num)).mpr h1'⟩

theorem byte_unit (x : UInt8) : 0 ≤ ((ch x : Int) : ℚ) / 255 ∧ ((ch x : Int) : ℚ) / 255 ≤ 1 :=
  int_unit (ch_range x)

def lumQ (r g b : ℚ) : ℚ := 3 / 10 * r + 59 / 100 * g + 11 / 100 * b

theorem min3_le (r g b : ℚ) :
    min r (min g b) ≤ r ∧ min r (min g b) ≤ g ∧ min r (min g b) ≤ b :=
  ⟨min_le_left _ _, (min_le_right _ _).trans (min_le_left _ _),
    (min_le_right _ _).trans (min_le_right _ _)⟩

theorem le_max3 (r g b : ℚ) :
    r ≤ max r (max g b) ∧ g ≤ max r (max g b) ∧ b ≤ max r (max g b) :=
  ⟨le_max_left _ _, (le_max_left _ _).trans (le_max_right _ _),
    (le_max_right _ _).trans (le_max_right _ _)⟩

/-- a convex combination: the weights sum to 1 -/
theorem lumQ_mem {lo hi r g b : ℚ} (hr : lo ≤ r ∧ r ≤ hi) (hg : lo ≤ g ∧ g ≤ hi)
    (hb : lo ≤ b ∧ b ≤ hi) : lo ≤ lumQ r g b ∧ lumQ r g b ≤ hi := by
  unfold lumQ
  constructor
  · linarith only [hr.1, hg.1, hb.1]
  · linarith only [hr.2, hg.2, hb.2]

theorem lumQ_shift (r g b d : ℚ) : lumQ (r + d) (g + d) (b + d) = lumQ r g b + d := by
  unfold lumQ
  ring

theorem lumQ_between (r g b : ℚ) :
    min r (min g b) ≤ lumQ r g b ∧ lumQ r g b ≤ max r (max g b) :=
  lumQ_mem ⟨(min3_le r g b).1, (le_max3 r g b).1⟩ ⟨(min3_le r g b).2.1, (le_max3 r g b).2.1⟩
    ⟨(min3_le r g b).2.2, (le_max3 r g b).2.2⟩

theorem satQ_range {r g b : ℚ} (hr : 0 ≤ r ∧ r ≤ 1) (hg : 0 ≤ g ∧ g ≤ 1) (hb : 0 ≤ b ∧ b ≤ 1) :
    0 ≤ max r (max g b) - min r (min g b) ∧ max r (max g b) - min r (min g b) ≤ 1 :=
  ⟨sub_nonneg.mpr ((min3_le r g b).1.trans (le_max3 r g b).1),
    (sub_le_self _ (le_min hr.1 (le_min hg.1 hb.1))).trans (max_le hr.2 (max_le hg.2 hb.2))⟩

def clipLo (l mn x : ℚ) : ℚ := if mn < 0 then l + (x - l) * l / (l - mn) else x

def clipHi (l mx x : ℚ) : ℚ := if 1 < mx then l + (x - l) * (1 - l) / (mx - l) else x

/-- `clip_color` on one channel, the bug-compatible variant: `l`, `mn`, `mx` are computed once,
    before the first step, and reused in the second -/
def clip1 (l mn mx x : ℚ) : ℚ := clipHi l mx (clipLo l mn x)

theorem lerp_ge {a x y t : ℚ} (ht0 : 0 ≤ t) (ht1 : t ≤ 1) (hx : a ≤ x) (hy : a ≤ y) :
    a ≤ x + (y - x) * t := by
  have h1 := mul_nonneg (sub_nonneg.mpr hx) (sub_nonneg.mpr ht1)
  have h2 := mul_nonneg (sub_nonneg.mpr hy) ht0
  linarith

theorem lerp_le {b x y t : ℚ} (ht0 : 0 ≤ t) (ht1 : t ≤ 1) (hx : x ≤ b) (hy : y ≤ b) :
    x + (y - x) * t ≤ b := by
  have h1 := mul_nonneg (sub_nonneg.mpr hx) (sub_nonneg.mpr ht1)
  have h2 := mul_nonneg (sub_nonneg.mpr hy) ht0
  linarith

theorem clip_step1 {l mn mx x : ℚ} (hl0 : 0 ≤ l) (hmx : l ≤ mx)
    (hx0 : mn ≤ x) (hx1 : x ≤ mx) :
    0 ≤ clipLo l mn x ∧ clipLo l mn x ≤ mx := by
  unfold clipLo
  split
  next h =>
    -- `t = l / (l - mn)` is in `[0,1]` and takes `mn` exactly to 0
    have hpos : 0 < l - mn := by linarith only [h, hl0]
    have ht0 : 0 ≤ l / (l - mn) := div_nonneg hl0 hpos.le
    have ht1 : l / (l - mn) ≤ 1 := (div_le_one₀ hpos).mpr (by linarith only [h])
    have hte : l / (l - mn) * (l - mn) = l := div_mul_cancel₀ _ hpos.ne'
    rw [mul_div_assoc]
    generalize l / (l - mn) = t at *
    have h1 := mul_le_mul_of_nonneg_right (sub_le_sub_right hx0 l) ht0
    exact ⟨by linarith only [h1, hte], lerp_le ht0 ht1 hmx hx1⟩
  next h => exact ⟨(not_lt.mp h).trans hx0, hx1⟩

theorem clip_step2 {l mx x1 : ℚ} (hl0 : 0 ≤ l) (hl1 : l ≤ 1)
    (hx0 : 0 ≤ x1) (hx1 : x1 ≤ mx) :
    0 ≤ clipHi l mx x1 ∧ clipHi l mx x1 ≤ 1 := by
  unfold clipHi
  split
  next h =>
    -- `u = (1 - l) / (mx - l)` is in `[0,1]` and takes `mx` exactly to 1
    have hpos : 0 < mx - l := by linarith only [h, hl1]
    have hu0 : 0 ≤ (1 - l) / (mx - l) := div_nonneg (sub_nonneg.mpr hl1) hpos.le
    have hu1 : (1 - l) / (mx - l) ≤ 1 := (div_le_one₀ hpos).mpr (by linarith only [h])
    have hue : (1 - l) / (mx - l) * (mx - l) = 1 - l := div_mul_cancel₀ _ hpos.ne'
    rw [mul_div_assoc]
    generalize (1 - l) / (mx - l) = u at *
    have h2 := mul_le_mul_of_nonneg_right (sub_le_sub_right hx1 l) hu0
    exact ⟨lerp_ge hu0 hu1 hl0 hx0, by linarith only [h2, hue]⟩
  next h => exact ⟨hx0, hx1.trans (not_lt.mp h)⟩

theorem clip1_range {l mn mx x : ℚ} (hl0 : 0 ≤ l) (hl1 : l ≤ 1) (hmx : l ≤ mx)
    (hx0 : mn ≤ x) (hx1 : x ≤ mx) : 0 ≤ clip1 l mn mx x ∧ clip1 l mn mx x ≤ 1 := by
  have s1 := clip_step1 hl0 hmx hx0 hx1
  exact clip_step2 hl0 hl1 s1.1 s1.2

/-- the scaled middle channel of `set_saturation` -/
theorem mid_range {a m b sat : ℚ} (h1 : a ≤ m) (h2 : m ≤ b) (h : a < b) (hs : 0 ≤ sat) :
    0 ≤ (m - a) * sat / (b - a) ∧ (m - a) * sat / (b - a) ≤ sat := by
  have hpos : 0 < b - a := by linarith
  constructor
  · exact div_nonneg (mul_nonneg (by linarith) hs) hpos.le
  · rw [div_le_iff₀ hpos]
    have := mul_le_mul_of_nonneg_right (show m - a ≤ b - a by linarith) hs
    linarith

/-- `D(x)` of the soft-light formula -/
def softLightD (sqrt : ℚ → ℚ) (x : ℚ) : ℚ :=
  if x ≤ 1 / 4 then ((16 * x - 12) * x + 4) * x else sqrt x

def softLightQ (sqrt : ℚ → ℚ) (bf sf : ℚ) : ℚ :=
  if sf ≤ 1 / 2 then bf - (1 - 2 * sf) * bf * (1 - bf)
  else bf + (2 * sf - 1) * (softLightD sqrt bf - bf)

theorem softLightD_range {sqrt : ℚ → ℚ} (hq : SqrtOk sqrt) {x : ℚ} (h0 : 0 ≤ x) (h1 : x ≤ 1) :
    0 ≤ softLightD sqrt x ∧ softLightD sqrt x ≤ 1 := by
  unfold softLightD
  split
  next h =>
    -- the cubic is `p * x` with `0 ≤ p ≤ 4` on `[0, 1/4]`: `p = 4 - 12 x + 16 x²`, `x² ≤ x / 4`
    have hx : 0 ≤ x * (1 / 4 - x) := mul_nonneg h0 (sub_nonneg.mpr h)
    have hxx : 0 ≤ x * x := mul_nonneg h0 h0
    have p0 : 0 ≤ (16 * x - 12) * x + 4 := by linarith only [hxx, h]
    have p4 : (16 * x - 12) * x + 4 ≤ 4 := by linarith only [hx, h0]
    exact ⟨mul_nonneg p0 h0, (mul_le_mul_of_nonneg_right p4 h0).trans (by linarith only [h])⟩
  next => exact ⟨h0.trans (hq x h0 h1).1, (hq x h0 h1).2⟩

theorem softLightQ_range {sqrt : ℚ → ℚ} (hq : SqrtOk sqrt) {bf sf : ℚ} (hb : 0 ≤ bf ∧ bf ≤ 1)
    (hs : 0 ≤ sf ∧ sf ≤ 1) : 0 ≤ softLightQ sqrt bf sf ∧ softLightQ sqrt bf sf ≤ 1 := by
  obtain ⟨hb0, hb1⟩ := hb
  obtain ⟨hs0, hs1⟩ := hs
  unfold softLightQ
  have hd := softLightD_range hq hb0 hb1
  split
  next h =>
    -- a point between `bf` and `bf²`
    have e : bf - (1 - 2 * sf) * bf * (1 - bf) = bf + (bf * bf - bf) * (1 - 2 * sf) := by ring
    have hbb : bf * bf ≤ 1 := mul_le_one₀ hb1 hb0 hb1
    rw [e]
    have t0 : 0 ≤ 1 - 2 * sf := by linarith only [h]
    have t1 : 1 - 2 * sf ≤ 1 := by linarith only [hs0]
    exact ⟨lerp_ge t0 t1 hb0 (mul_nonneg hb0 hb0), lerp_le t0 t1 hb1 hbb⟩
  next h =>
    rw [mul_comm]
    have t0 : 0 ≤ 2 * sf - 1 := by linarith only [h]
    have t1 : 2 * sf - 1 ≤ 1 := by linarith only [hs1]
    exact ⟨lerp_ge t0 t1 hb0 hd.1, lerp_le t0 t1 hb1 hd.2⟩

end Ase.Proofs
