import Ase.Parse
/-
  The legacy palette decoder: the `u32` accumulations of its packet loop never overflow, so the
  overflow checks never fire and the decoder is the same function in every build profile
  (namespace `C16`: that is the property these facts were first wanted for; C04 uses them too).
-/
namespace Ase.Proofs.C16
open Ase

theorem u32Add_profile (m m' : Profile) (a b : Nat) (h : a + b < 4294967296) :
    u32Add m a b = u32Add m' a b := by
  rw [u32Add_ok m h, u32Add_ok m' h]

/-- With `n` packets left, `skip + 255 * n ≤ 255 * 65535` is an invariant (each packet adds one
    byte to `skip`), so `skip' ≤ 255 * 65535` and `count + skip' ≤ 256 + 255 * 65535 < 2^32`. -/
theorem parseOldPackets_profile (m m' : Profile) (scaled : Bool) :
    ∀ (n skip : Nat) (p : Palette), skip + 255 * n ≤ 255 * 65535 →
      parseOldPackets m scaled n skip p = parseOldPackets m' scaled n skip p
  | 0, _, _, _ => rfl
  | n + 1, skip, p, h => by
      funext bs
      unfold parseOldPackets
      refine RdS.bind_congr fun sk _ _ => ?_
      have := sk.toNat_lt
      rw [u32Add_ok m (by omega), u32Add_ok m' (by omega)]
      refine RdS.bind_congr fun skip' _ hs => ?_
      cases hs
      refine RdS.bind_congr fun c _ _ => ?_
      have : (if c.toNat == 0 then 256 else c.toNat) ≤ 256 := by
        split
        · exact Nat.le_refl _
        · exact Nat.le_of_lt c.toNat_lt
      rw [u32Add_ok m (by omega), u32Add_ok m' (by omega)]
      refine RdS.bind_congr fun _ _ _ => RdS.bind_congr fun p' _ _ => ?_
      rw [parseOldPackets_profile m m' scaled n _ p' (by omega)]

theorem parseOldPaletteChunk_profile (m m' : Profile) (scaled : Bool) :
    parseOldPaletteChunk m scaled = parseOldPaletteChunk m' scaled := by
  funext bs
  refine RdS.bind_congr fun n _ _ => ?_
  have := n.toNat_lt
  rw [parseOldPackets_profile m m' scaled _ _ _ (by omega)]

end Ase.Proofs.C16
