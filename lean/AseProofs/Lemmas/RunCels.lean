import AseProofs.Lemmas.Machine
import AseProofs.Lemmas.Assoc
/-
  The cel table of the state machine `Spec.runFrames`: after a successful run, the cel stored
  under `(frame, layer)` is - up to the user data attached later - the cel item of that frame
  with that layer index; a frame has at most one cel item per layer; rows are sorted by layer.
-/
namespace Ase.Proofs.More
open Ase Ase.Proofs Ase.Proofs.WholeFile

def stripC {P : Type} (c : RawCel P) : RawCel P := { c with userData := none }

/-- the cel stored under frame `f`, layer `l`.  `validate_cel` (`ValidateTables.lean`) and the C10
    files write the body out, `(pi.cels[f]?).bind (FrameCels.get? l)`; the two agree by unfolding. -/
def celAt (pi : ParseInfo) (f l : Nat) : Option (RawCel RawPixels) :=
  (pi.cels[f]?).bind (FrameCels.get? l)

/-- "cel view": `celAt` with the user data stripped, which is what a run determines from the cel
    items alone (user data is attached later) -/
def cv (pi : ParseInfo) (f l : Nat) : Option (RawCel RawPixels) := (celAt pi f l).map stripC

def RowsSorted (pi : ParseInfo) : Prop := ∀ row ∈ pi.cels, RowSorted row

theorem addCel_cels {pi pi' : ParseInfo} {frame : Nat} {c : RawCel RawPixels}
    (h : pi.addCel frame c = .ok pi') :
    celAt pi frame c.data.layerIndex.toNat = none ∧
    (∀ f l, celAt pi' f l =
      if f = frame ∧ l = c.data.layerIndex.toNat then some c else celAt pi f l) ∧
    pi'.cels.size = pi.cels.size ∧ (RowsSorted pi → RowsSorted pi') := by
  obtain ⟨row, hrow, hnone, rfl⟩ := Machine.addCel_eq_ok h
  refine ⟨by simp only [celAt, hrow, Option.bind_some, hnone], fun f l => ?_,
    by simp only [Array.set!_eq_setIfInBounds, Array.size_setIfInBounds], fun hs r hr => ?_⟩
  · simp only [celAt]
    rw [getElem?_set! hrow]
    by_cases hf : frame = f
    · subst hf
      simp only [if_true, Option.bind_some, hrow, true_and]
      exact FrameCels.get?_insert _ c row hnone l
    · simp only [hf, ↓reduceIte, Ne.symm hf, false_and]
  · rcases mem_set! hr with rfl | h1
    · exact insert_sorted _ c row (hs row (Array.mem_of_getElem? hrow)) hnone
    · exact hs r h1

theorem addUserData_cels {pi pi' : ParseInfo} {u : UserData} (h : pi.addUserData u = .ok pi') :
    (∀ f l, cv pi' f l = cv pi f l) ∧ pi'.cels.size = pi.cels.size ∧
    (RowsSorted pi → RowsSorted pi') := by
  cases Machine.addUserData_eq_ok h with
  | @cel f0 l0 row c _ hrow _ =>
      refine ⟨fun f l => ?_,
        by simp only [Array.set!_eq_setIfInBounds, Array.size_setIfInBounds],
        fun hs r hr => ?_⟩
      · simp only [cv, celAt]
        rw [getElem?_set! hrow]
        by_cases hf : f0 = f
        · subst hf
          simp only [if_true, Option.bind_some, hrow, FrameCels.get?_modify]
          split
          · rw [Option.map_map]
            rfl
          · rfl
        · simp only [hf, ↓reduceIte, Option.map_bind]
      · rcases mem_set! hr with rfl | h1
        · exact modify_sorted _ _ row (hs row (Array.mem_of_getElem? hrow))
        · exact hs r h1
  | _ => exact ⟨fun _ _ => rfl, rfl, id⟩

def celItem? : Spec.SItem → Option (RawCel RawPixels)
  | .cel c => some c
  | _ => none

def celItems (its : List Spec.SItem) : List (RawCel RawPixels) := its.filterMap celItem?

def findCel (its : List Spec.SItem) (l : Nat) : Option (RawCel RawPixels) :=
  (celItems its).find? (fun c => c.data.layerIndex.toNat == l)

def celLayers (its : List Spec.SItem) : List Nat := (celItems its).map (·.data.layerIndex.toNat)

theorem stepSem_cels_other {frame : Nat} {pi pi' : ParseInfo} {it : Spec.SItem}
    (h : Spec.stepSem frame pi it = .ok pi') (hc : celItem? it = none) :
    (∀ f l, cv pi' f l = cv pi f l) ∧ pi'.cels.size = pi.cels.size ∧
    (RowsSorted pi → RowsSorted pi') := by
  cases it with
  | cel c => cases hc
  | userData u => exact addUserData_cels h
  | tags ts | oldPalette p =>
      simp only [stepSem_tags, stepSem_oldPalette] at h
      cases h
      exact ⟨fun _ _ => rfl, rfl, id⟩
  | _ =>
      cases h
      exact ⟨fun _ _ => rfl, rfl, id⟩

theorem findCel_cons_cel (c : RawCel RawPixels) (rest : List Spec.SItem) (l : Nat) :
    findCel (.cel c :: rest) l =
      if l = c.data.layerIndex.toNat then some c else findCel rest l := by
  simp only [findCel, celItems, List.filterMap_cons, celItem?, List.find?_cons]
  by_cases h : l = c.data.layerIndex.toNat
  · simp only [h, BEq.rfl, ↓reduceIte]
  · have : (c.data.layerIndex.toNat == l) = false := beq_eq_false_iff_ne.mpr (Ne.symm h)
    simp only [this, List.find?_filterMap, h, ↓reduceIte]

theorem findCel_cons_other (it : Spec.SItem) (rest : List Spec.SItem) (l : Nat)
    (hc : celItem? it = none) : findCel (it :: rest) l = findCel rest l := by
  simp only [findCel, celItems, List.filterMap_cons, hc]

theorem celLayers_cons_cel (c : RawCel RawPixels) (rest : List Spec.SItem) :
    celLayers (.cel c :: rest) = c.data.layerIndex.toNat :: celLayers rest := by
  simp only [celLayers, celItems, celItem?, Option.some.injEq, List.filterMap_cons_some,
    List.map_cons]

theorem celLayers_cons_other (it : Spec.SItem) (rest : List Spec.SItem)
    (hc : celItem? it = none) : celLayers (it :: rest) = celLayers rest := by
  simp only [celLayers, celItems, List.filterMap_cons, hc]

theorem findCel_none_not_mem {its : List Spec.SItem} {l : Nat} (h : findCel its l = none) :
    l ∉ celLayers its := by
  intro hm
  simp only [celLayers, List.mem_map] at hm
  obtain ⟨c, hc, hl⟩ := hm
  simp only [findCel, List.find?_eq_none] at h
  exact h c hc (by simp only [hl, BEq.rfl])

/-- the middle conjunct (no cel item for an occupied cell) is there for the induction: applied to
    the tail after a cel item has been stored, it says the tail has no second item for that layer -/
theorem runItems_cels (frame : Nat) (its : List Spec.SItem) : ∀ {pi pi' : ParseInfo},
    Spec.runItems frame pi its = .ok pi' →
    (∀ f l, cv pi' f l =
      (if f = frame then (findCel its l).map stripC else none).or (cv pi f l)) ∧
    (∀ l, cv pi frame l ≠ none → findCel its l = none) ∧
    (celLayers its).Nodup := by
  induction its with
  | nil =>
      intro pi pi' h
      cases h
      refine ⟨fun f l => ?_, fun _ _ => rfl, List.nodup_nil⟩
      simp [findCel, celItems]
  | cons it rest ih =>
      intro pi pi' h
      obtain ⟨q, hs, h⟩ := runItems_cons_eq_ok h
      obtain ⟨ha, hb, hc⟩ := ih h
      cases it with
      | cel c =>
          obtain ⟨hfree, hset, _, _⟩ := addCel_cels (show pi.addCel frame c = .ok q from hs)
          have hq : ∀ f l, cv q f l =
              if f = frame ∧ l = c.data.layerIndex.toNat then some (stripC c) else cv pi f l := by
            intro f l
            simp only [cv, hset f l]
            split <;> rfl
          have hrest : findCel rest c.data.layerIndex.toNat = none := by
            apply hb
            rw [hq]
            simp only [and_self, ↓reduceIte, ne_eq, reduceCtorEq, not_false_eq_true]
          refine ⟨?_, ?_, ?_⟩
          · intro f l
            rw [ha, hq, findCel_cons_cel]
            by_cases hf : f = frame
            · by_cases hl : l = c.data.layerIndex.toNat
              · subst hl
                simp [hf, hrest]
              · simp only [hf, ↓reduceIte, hl, and_false]
            · simp only [hf, ↓reduceIte, false_and, Option.none_or]
          · intro l hl
            have hne : l ≠ c.data.layerIndex.toNat := by
              intro e
              subst e
              apply hl
              simp only [cv, hfree, Option.map_none]
            rw [findCel_cons_cel, if_neg hne]
            apply hb
            rw [hq]
            simp only [hne, and_false, if_false]
            exact hl
          · rw [celLayers_cons_cel]
            exact List.nodup_cons.mpr ⟨findCel_none_not_mem hrest, hc⟩
      | _ =>
          obtain ⟨hcv, _, _⟩ := stepSem_cels_other hs rfl
          refine ⟨?_, ?_, ?_⟩
          · intro f l
            rw [ha, hcv, findCel_cons_other _ rest l rfl]
          · intro l hl
            rw [findCel_cons_other _ rest l rfl]
            exact hb l (hcv frame l ▸ hl)
          · rw [celLayers_cons_other _ rest rfl]
            exact hc

def itemsAt (frames : List (UInt16 × List Spec.SItem)) (j : Nat) : List Spec.SItem :=
  ((frames[j]?).map (·.2)).getD []

theorem runFrames_cels (frames : List (UInt16 × List Spec.SItem)) :
    ∀ {k : Nat} {pi pi' : ParseInfo}, Spec.runFrames k pi frames = .ok pi' →
    (∀ f l, cv pi' f l =
      (if k ≤ f then (findCel (itemsAt frames (f - k)) l).map stripC else none).or (cv pi f l)) ∧
    ∀ j, (celLayers (itemsAt frames j)).Nodup := by
  induction frames with
  | nil =>
      intro k pi pi' h
      cases h
      refine ⟨fun f l => ?_, fun j => ?_⟩
      · simp [itemsAt, findCel, celItems]
      · simp [itemsAt, celLayers, celItems]
  | cons fr t ih =>
      intro k pi pi' h
      obtain ⟨d, its⟩ := fr
      obtain ⟨q, hq, h⟩ := runFrames_cons_eq_ok h
      obtain ⟨ha, _, hc⟩ := runItems_cels k its hq
      obtain ⟨hA, hC⟩ := ih h
      refine ⟨?_, ?_⟩
      · intro f l
        rw [hA, ha]
        show Option.or _ (Option.or _ (cv pi f l)) = _
        rcases Nat.lt_trichotomy f k with hlt | heq | hgt
        · have h1 : ¬ k + 1 ≤ f := by omega
          have h2 : ¬ k ≤ f := by omega
          have h3 : ¬ f = k := by omega
          simp only [h1, ↓reduceIte, h3, Option.none_or, h2]
        · subst heq
          have h1 : ¬ f + 1 ≤ f := by omega
          simp [h1, itemsAt]
        · have h1 : k + 1 ≤ f := by omega
          have h2 : k ≤ f := by omega
          have h3 : ¬ f = k := by omega
          have h4 : f - k = (f - (k + 1)) + 1 := by omega
          simp [h1, h2, h3, h4, itemsAt]
      · intro j
        cases j with
        | zero => simpa [itemsAt] using hc
        | succ j => simpa only [itemsAt, List.getElem?_cons_succ] using hC j

theorem stepSem_cels_size_sorted {frame : Nat} {pi pi' : ParseInfo} {it : Spec.SItem}
    (h : Spec.stepSem frame pi it = .ok pi') :
    pi'.cels.size = pi.cels.size ∧ (RowsSorted pi → RowsSorted pi') := by
  cases it with
  | cel c => exact (addCel_cels (show pi.addCel frame c = .ok pi' from h)).2.2
  | _ => exact (stepSem_cels_other h rfl).2

theorem runFrames_rowsSorted (frames : List (UInt16 × List Spec.SItem)) {k : Nat}
    {pi pi' : ParseInfo} (h : Spec.runFrames k pi frames = .ok pi') (hs : RowsSorted pi) :
    RowsSorted pi' :=
  runFrames_inv RowsSorted frames (fun _ _ _ _ _ _ _ _ h hp => (stepSem_cels_size_sorted h).2 hp)
    (fun _ _ hp => hp) h hs

theorem runFrames_cels_size (frames : List (UInt16 × List Spec.SItem)) {k : Nat}
    {pi pi' : ParseInfo} (h : Spec.runFrames k pi frames = .ok pi') :
    pi'.cels.size = pi.cels.size :=
  runFrames_inv (fun q => q.cels.size = pi.cels.size) frames
    (fun _ _ _ _ _ _ _ _ h hp => (stepSem_cels_size_sorted h).1.trans hp) (fun _ _ hp => hp) h rfl

theorem new_rowsSorted (n : Nat) (t : UInt16) : RowsSorted (ParseInfo.new n t) := by
  intro row hrow
  simp only [ParseInfo.new, Array.mem_replicate] at hrow
  rw [hrow.2]
  exact List.Pairwise.nil

theorem cv_new (n : Nat) (t : UInt16) (f l : Nat) : cv (ParseInfo.new n t) f l = none := by
  simp only [cv, celAt, ParseInfo.new]
  by_cases hf : f < n
  · simp [hf, FrameCels.get?]
  · simp only [Array.size_replicate, hf, not_false_eq_true, getElem?_neg, Option.bind_none,
      Option.map_none]

end Ase.Proofs.More
