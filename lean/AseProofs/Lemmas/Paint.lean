import Ase.Render
/-
  The renderer changes an image only through `blendAt` (read a pixel, blend, write it back).
  `Painted` says what a pass made of such steps does to each pixel; a fold of passes that hit
  disjoint positions is again such a pass (`Painted.range`).
-/
namespace Ase.Proofs
open Ase

def SameDims (a b : Image) : Prop := a.w = b.w ∧ a.h = b.h ∧ a.px.size = b.px.size

theorem SameDims.refl (a : Image) : SameDims a a := ⟨rfl, rfl, rfl⟩
theorem SameDims.trans {a b c : Image} (h1 : SameDims a b) (h2 : SameDims b c) : SameDims a c :=
  ⟨h1.1.trans h2.1, h1.2.1.trans h2.2.1, h1.2.2.trans h2.2.2⟩
theorem SameDims.symm {a b : Image} (h : SameDims a b) : SameDims b a :=
  ⟨h.1.symm, h.2.1.symm, h.2.2.symm⟩

theorem SameDims.size {a b : Image} (h : SameDims a b) (hsz : a.px.size = a.w * a.h) :
    b.px.size = b.w * b.h :=
  h.1 ▸ h.2.1 ▸ h.2.2 ▸ hsz

theorem get_ok (img : Image) {X Y : Nat} (hX : X < img.w) (hY : Y < img.h) :
    img.get X Y = .ok (img.px.getD (Y * img.w + X) RGBA.zero) := by
  simp only [Image.get, hX, hY, decide_true, Bool.and_self, if_true, Array.getD_eq_getD_getElem?]

theorem get_ok_iff (img : Image) (X Y : Nat) :
    (∃ c, img.get X Y = .ok c) ↔ (X < img.w ∧ Y < img.h) := by
  refine ⟨fun ⟨_, h⟩ => ?_, fun h => ⟨_, get_ok img h.1 h.2⟩⟩
  unfold Image.get at h
  split at h
  · rename_i hc
    simpa only [Bool.and_eq_true, decide_eq_true_eq] using hc
  · cases h

theorem put_eq_ok {img img' : Image} {x y : Nat} {c : RGBA} (h : img.put x y c = .ok img') :
    (x < img.w ∧ y < img.h) ∧ img' = { img with px := img.px.setIfInBounds (y * img.w + x) c } := by
  unfold Image.put at h
  split at h
  · rename_i hc
    cases h
    exact ⟨by simpa only [Bool.and_eq_true, decide_eq_true_eq] using hc, rfl⟩
  · cases h

theorem put_dims {img img' : Image} {x y : Nat} {c : RGBA} (h : img.put x y c = .ok img') :
    SameDims img img' := by
  rw [(put_eq_ok h).2]
  exact ⟨rfl, rfl, (Array.size_setIfInBounds ..).symm⟩

theorem divmod_unique {w a b i : Nat} (hb : b < w) (h : a * w + b = i) : i / w = a ∧ i % w = b := by
  subst h
  have hw : 0 < w := by omega
  constructor
  · rw [Nat.add_comm, Nat.add_mul_div_right _ _ hw, Nat.div_eq_of_lt hb, Nat.zero_add]
  · rw [Nat.add_comm, Nat.add_mul_mod_self_right, Nat.mod_eq_of_lt hb]

theorem index_inj {w x y X Y : Nat} (hx : x < w) (hX : X < w) (h : Y * w + X = y * w + x) :
    X = x ∧ Y = y := by
  obtain ⟨hd, hm⟩ := divmod_unique hX h
  obtain ⟨hd', hm'⟩ := divmod_unique (a := y) hx rfl
  exact ⟨hm.symm.trans hm', hd.symm.trans hd'⟩

theorem index_lt {w h x y : Nat} (hx : x < w) (hy : y < h) : y * w + x < w * h := by
  have h2 : (y + 1) * w ≤ h * w := Nat.mul_le_mul_right _ hy
  rw [Nat.succ_mul] at h2
  rw [Nat.mul_comm w h]
  omega

/-- the left side has the form in which `Painted.range` states a fold from 0 -/
theorem exists_index_iff {w h : Nat} (P : Nat → Nat → Prop) :
    (∃ i, 0 ≤ i ∧ i < 0 + w * h ∧ P (i % w) (i / w)) ↔ ∃ a b, a < w ∧ b < h ∧ P a b := by
  constructor
  · intro ⟨i, _, hlt, hp⟩
    rw [Nat.zero_add] at hlt
    have hw : 0 < w := Nat.pos_of_ne_zero fun h0 => by
      rw [h0, Nat.zero_mul] at hlt
      exact absurd hlt (Nat.not_lt_zero i)
    exact ⟨_, _, Nat.mod_lt i hw, Nat.div_lt_of_lt_mul hlt, hp⟩
  · intro ⟨a, b, ha, hb, hp⟩
    obtain ⟨hd, hm⟩ := divmod_unique (a := b) ha rfl
    exact ⟨b * w + a, Nat.zero_le _, (Nat.zero_add _).symm ▸ index_lt ha hb, hm.symm ▸ hd.symm ▸ hp⟩

theorem put_get_same {img img' : Image} {x y : Nat} {c : RGBA} (h : img.put x y c = .ok img')
    (hsz : img.px.size = img.w * img.h) : img'.get x y = .ok c := by
  obtain ⟨⟨hx, hy⟩, rfl⟩ := put_eq_ok h
  have hidx : y * img.w + x < img.px.size := by rw [hsz]; exact index_lt hx hy
  simp only [Image.get, hx, hy, decide_true, Bool.and_self, if_true, Array.getD,
    Array.size_setIfInBounds, hidx, dite_true, Array.getInternal_eq_getElem,
    Array.getElem_setIfInBounds_self]

/-- outside the image both sides are the same panic -/
theorem put_get_other {img img' : Image} {x y X Y : Nat} {c : RGBA} (h : img.put x y c = .ok img')
    (hne : X ≠ x ∨ Y ≠ y) : img'.get X Y = img.get X Y := by
  obtain ⟨⟨hx, hy⟩, rfl⟩ := put_eq_ok h
  unfold Image.get
  dsimp only
  split
  · rename_i hin
    simp only [Bool.and_eq_true, decide_eq_true_eq] at hin
    have hidx : y * img.w + x ≠ Y * img.w + X := fun he =>
      let ⟨h1, h2⟩ := index_inj hx hin.1 he.symm
      hne.elim (fun h => h h1) (fun h => h h2)
    rw [Array.getD_eq_getD_getElem?, Array.getD_eq_getD_getElem?,
      Array.getElem?_setIfInBounds_ne hidx]
  · rfl

theorem canvas_size (s : Sprite) : s.canvas.px.size = s.canvas.w * s.canvas.h := by
  simp only [Sprite.canvas, Image.new, Array.size_replicate]

theorem SameDims.of_canvas {s : Sprite} {img : Image} (h : SameDims s.canvas img) :
    img.w = s.width.toNat ∧ img.h = s.height.toNat ∧ img.px.size = s.width.toNat * s.height.toNat :=
  ⟨h.1.symm, h.2.1.symm, h.2.2.symm.trans Array.size_replicate⟩

theorem canvas_get (s : Sprite) {X Y : Nat} (hX : X < s.canvas.w) (hY : Y < s.canvas.h) :
    s.canvas.get X Y = .ok RGBA.zero := by
  have hidx : Y * s.canvas.w + X < s.canvas.w * s.canvas.h := index_lt hX hY
  rw [get_ok _ hX hY]
  simp only [Sprite.canvas, Image.new] at hidx ⊢
  simp only [Array.getD, Array.size_replicate, hidx, dite_true, Array.getInternal_eq_getElem,
    Array.getElem_replicate]

theorem image_ext {a b : Image} (hd : SameDims a b) (hsz : a.px.size = a.w * a.h)
    (hpx : ∀ X Y, X < a.w → Y < a.h → b.get X Y = a.get X Y) : b = a := by
  obtain ⟨aw, ah, apx⟩ := a
  obtain ⟨bw, bh, bpx⟩ := b
  obtain ⟨h1, h2, h3⟩ := hd
  simp only at h1 h2 h3 hsz hpx
  subst h1 h2
  congr 1
  apply Array.ext h3.symm
  intro i hi1 hi2
  rw [hsz] at hi2
  have hw : 0 < aw := Nat.pos_of_ne_zero fun h0 => by rw [h0, Nat.zero_mul] at hi2; cases hi2
  have hx := Nat.mod_lt i hw
  have hy : i / aw < ah := Nat.div_lt_of_lt_mul hi2
  have := hpx (i % aw) (i / aw) hx hy
  rw [get_ok _ hx hy, get_ok _ hx hy] at this
  have hi3 : i < apx.size := hsz ▸ hi2
  simpa only [Array.getD, Nat.div_add_mod', hi1, hi3, dite_true, Array.getInternal_eq_getElem,
    Res.ok.injEq] using this

/-- what every loop of the renderer does to one pixel: read it, replace it by `f` of it -/
def blendAt (f : RGBA → Res RGBA) (img : Image) (x y : Nat) : Res Image :=
  match img.get x y with
  | .ok old =>
      match f old with
      | .ok new => img.put x y new
      | .err e => .err e
      | .panic s => .panic s
  | .err e => .err e
  | .panic s => .panic s

theorem blendAt_eq_ok {f : RGBA → Res RGBA} {img img' : Image} {x y : Nat}
    (h : blendAt f img x y = .ok img') :
    ∃ old v, img.get x y = .ok old ∧ f old = .ok v ∧ img.put x y v = .ok img' := by
  unfold blendAt at h
  split at h
  · rename_i old hold
    split at h
    · rename_i v hv
      exact ⟨old, v, hold, hv, h⟩
    · cases h
    · cases h
  · cases h
  · cases h

section
variable {f : RGBA → RGBA → Res RGBA} {R R' R₁ R₂ : Nat → Nat → Prop}
  {src src' : Nat → Nat → Option RGBA} {img img' img₁ img₂ : Image}

/-- `img'` arises from `img` by a pass that painted the region `R` with the pixels `src`.  The
    size condition is what makes a write readable: `put` sets entry `y * w + x` of the buffer
    only if the buffer is that long (`put_get_same`), and the model's `Image` does not carry
    the fact. -/
def Painted (f : RGBA → RGBA → Res RGBA) (R : Nat → Nat → Prop) (src : Nat → Nat → Option RGBA)
    (img img' : Image) : Prop :=
  SameDims img img' ∧ (img.px.size = img.w * img.h → ∀ X Y, X < img.w → Y < img.h →
    (R X Y → ∃ old p v, img.get X Y = .ok old ∧ src X Y = some p ∧ f old p = .ok v ∧
      img'.get X Y = .ok v) ∧
    (¬ R X Y → img'.get X Y = img.get X Y))

/-- stated apart from `Painted` so that `f old p` comes out beta-reduced when `f` is a lambda -/
theorem Painted.get (h : Painted f R src img img') (hsz : img.px.size = img.w * img.h) {X Y : Nat}
    (hX : X < img.w) (hY : Y < img.h) :
    (R X Y → ∃ old p v, img.get X Y = .ok old ∧ src X Y = some p ∧ f old p = .ok v ∧
      img'.get X Y = .ok v) ∧
    (¬ R X Y → img'.get X Y = img.get X Y) :=
  h.2 hsz X Y hX hY

theorem Painted.skip (h : ∀ X Y, X < img.w → Y < img.h → ¬ R X Y) : Painted f R src img img :=
  ⟨SameDims.refl _, fun _ X Y hX hY => ⟨fun hR => absurd hR (h X Y hX hY), fun _ => rfl⟩⟩

theorem Painted.congr (h : Painted f R src img img')
    (hR : ∀ X Y, X < img.w → Y < img.h → (R' X Y ↔ R X Y))
    (hsrc : ∀ X Y, R X Y → src' X Y = src X Y) : Painted f R' src' img img' := by
  refine ⟨h.1, fun hsz X Y hX hY => ⟨fun hR' => ?_, fun hR' => ?_⟩⟩
  · have hr := (hR X Y hX hY).mp hR'
    rw [hsrc X Y hr]
    exact (h.get hsz hX hY).1 hr
  · exact (h.get hsz hX hY).2 (fun hr => hR' ((hR X Y hX hY).mpr hr))

theorem Painted.seq (h1 : Painted f R₁ src img img₁) (h2 : Painted f R₂ src img₁ img₂)
    (hdisj : ∀ X Y, R₁ X Y → ¬ R₂ X Y) : Painted f (fun X Y => R₁ X Y ∨ R₂ X Y) src img img₂ := by
  refine ⟨h1.1.trans h2.1, fun hsz X Y hX hY => ?_⟩
  obtain ⟨a1, a2⟩ := h1.get hsz hX hY
  obtain ⟨b1, b2⟩ := h2.get (h1.1.size hsz) (h1.1.1 ▸ hX) (h1.1.2.1 ▸ hY)
  refine ⟨fun hR => ?_, fun hR => ?_⟩
  · rcases hR with hR | hR
    · obtain ⟨old, p, v, g1, g2, g3, g4⟩ := a1 hR
      exact ⟨old, p, v, g1, g2, g3, (b2 (hdisj X Y hR)).trans g4⟩
    · obtain ⟨old, p, v, g1, g2, g3, g4⟩ := b1 hR
      exact ⟨old, p, v, (a2 (fun hr => hdisj X Y hr hR)).symm.trans g1, g2, g3, g4⟩
  · exact (b2 (fun hr => hR (.inr hr))).trans (a2 (fun hr => hR (.inl hr)))

theorem blendAt_painted {x y : Nat} {p : RGBA} (h : blendAt (f · p) img x y = .ok img') :
    Painted f (fun X Y => X = x ∧ Y = y) (fun _ _ => some p) img img' := by
  obtain ⟨old, v, hold, hv, hput⟩ := blendAt_eq_ok h
  refine ⟨put_dims hput, fun hsz X Y _ _ => ⟨fun hR => ?_, fun hR => ?_⟩⟩
  · obtain ⟨rfl, rfl⟩ := hR
    exact ⟨old, p, v, hold, rfl, hv, put_get_same hput hsz⟩
  · exact put_get_other hput (Decidable.not_and_iff_not_or_not.mp hR)

/-- a pass whose region misses the image leaves it as it is -/
theorem Painted.eq_of_disjoint (h : Painted f R src img img') (hsz : img.px.size = img.w * img.h)
    (hoff : ∀ X Y, X < img.w → Y < img.h → ¬ R X Y) : img' = img :=
  image_ext h.1 hsz (fun _ _ hX hY => (h.get hsz hX hY).2 (hoff _ _ hX hY))

/-- a pass over the transparent canvas: the backdrop of every blend is `RGBA.zero` -/
theorem Painted.of_canvas {s : Sprite} (h : Painted f R src s.canvas img') {X Y : Nat}
    (hX : X < s.canvas.w) (hY : Y < s.canvas.h) :
    (R X Y → ∃ p v, src X Y = some p ∧ f RGBA.zero p = .ok v ∧ img'.get X Y = .ok v) ∧
    (¬ R X Y → img'.get X Y = .ok RGBA.zero) := by
  obtain ⟨a, b⟩ := h.get (canvas_size s) hX hY
  have hz := canvas_get s hX hY
  refine ⟨fun hR => ?_, fun hR => (b hR).trans hz⟩
  obtain ⟨old, p, v, h1, h2, h3, h4⟩ := a hR
  rw [hz] at h1; cases h1
  exact ⟨p, v, h2, h3, h4⟩

/-- `hfun`: a position is hit by at most one index, so the passes of the fold do not meet -/
theorem Painted.range {step : Image → Nat → Res Image} {hit : Nat → Nat → Nat → Prop}
    (hfun : ∀ a b X Y, hit a X Y → hit b X Y → a = b)
    (hstep : ∀ a img img', step img a = .ok img' → Painted f (hit a) src img img') :
    ∀ (n i : Nat) (img img' : Image), (List.range' i n).foldlM step img = .ok img' →
      Painted f (fun X Y => ∃ a, i ≤ a ∧ a < i + n ∧ hit a X Y) src img img'
  | 0, i, img, img', h => by
      cases h
      exact Painted.skip fun X Y _ _ ⟨a, h1, h2, _⟩ => by omega
  | n + 1, i, img, img', h => by
      rw [List.range'_succ, List.foldlM_cons] at h
      obtain ⟨img₁, h1, h⟩ := Res.bind_eq_ok h
      refine ((hstep i img img₁ h1).seq (Painted.range hfun hstep n (i + 1) img₁ img' h)
        (fun X Y r1 ⟨b, hb, _, r2⟩ => by have := hfun i b X Y r1 r2; omega)).congr
        (fun X Y _ _ => ?_) (fun _ _ _ => rfl)
      constructor
      · intro ⟨a, h1, h2, r⟩
        rcases Nat.eq_or_lt_of_le h1 with rfl | hlt
        · exact .inl r
        · exact .inr ⟨a, hlt, by omega, r⟩
      · rintro (r | ⟨a, h1, h2, r⟩)
        · exact ⟨i, Nat.le_refl _, by omega, r⟩
        · exact ⟨a, by omega, by omega, r⟩

end
end Ase.Proofs
