import AseProofs.Lemmas.Attach
/-
  C10, facts about the declarative spec alone: `other` events are transparent, `attached` is sound
  and (when no entity receives two records) complete, and with at most one tags event the records
  of a tag since that event are all its records.
-/
namespace Ase.Proofs.C10
open Ase Ase.Spec

/-- the events that attachment sees: the spec gives the same on `noOther evs` as on `evs` -/
def noOther (evs : List Ev) : List Ev := evs.filter (· != .other)

theorem noOther_append (a b : List Ev) : noOther (a ++ b) = noOther a ++ noOther b :=
  List.filter_append ..

theorem noOther_singleton {e : Ev} (he : e ≠ .other) : noOther [e] = [e] := by
  simp [noOther, he]

theorem noOther_insertOther (evs : List Ev) (k n : Nat) :
    noOther (insertOther evs k n) = noOther evs := by
  have hrep : noOther (List.replicate n Ev.other) = [] := by simp [noOther]
  rw [insertOther, noOther_append, noOther_append, hrep, List.append_nil, ← noOther_append,
    List.take_append_drop]

theorem countP_noOther {p : Ev → Bool} (hp : p .other = false) (evs : List Ev) :
    (noOther evs).countP p = evs.countP p := by
  rw [noOther, List.countP_filter]
  refine List.countP_congr fun e _ => ?_
  cases e <;> simp [hp]

theorem ctxTarget_noOther (evs : List Ev) (e : Ev) :
    ctxTarget (noOther evs) e = ctxTarget evs e := by
  cases e <;> simp only [ctxTarget, countP_noOther (p := Ev.isLayer) rfl,
    countP_noOther (p := Ev.isSlice) rfl]

theorem attachTarget_noOther (evs : List Ev) :
    attachTarget (noOther evs) (noOther evs).length = attachTarget evs evs.length := by
  induction evs using snoc_induction with
  | nil => rfl
  | snoc evs e ih =>
      rw [attachTarget_snoc, ← ih, noOther_append]
      by_cases he : e = .other
      · subst he
        exact congrArg (fun l => attachTarget l l.length) (List.append_nil _)
      · rw [noOther_singleton he, attachTarget_snoc, ctxTarget_noOther]

theorem attached_noOther (t : Target) (evs : List Ev) :
    attached (noOther evs) t = attached evs t := by
  induction evs using snoc_induction with
  | nil => rfl
  | snoc evs e ih =>
      rw [attached_snoc, ← ih, ← attachTarget_noOther, noOther_append]
      by_cases he : e = .other
      · subst he
        exact congrArg (attached · t) (List.append_nil _)
      · rw [noOther_singleton he, attached_snoc]

/-- Nothing here is about `other`: a position inside `a` does not see what follows `a`
    (`attachTarget_append`, twice). -/
theorem attachTarget_insert_before (a b : List Ev) (i : Nat) (h : i ≤ a.length) :
    attachTarget (a ++ Ev.other :: b) i = attachTarget (a ++ b) i := by
  rw [attachTarget_append h, attachTarget_append h]

theorem attachTarget_insertOther_before (evs : List Ev) (k n i : Nat) (hk : k ≤ evs.length)
    (h : i ≤ k) : attachTarget (insertOther evs k n) i = attachTarget evs i := by
  unfold insertOther
  have hl : (evs.take k).length = k := by simp [hk]
  rw [List.append_assoc, attachTarget_append (by omega)]
  conv => rhs; rw [← List.take_append_drop k evs]
  rw [attachTarget_append (by omega)]

theorem attachTarget_insertOther_after (evs : List Ev) (k n i : Nat) (hk : k ≤ i)
    (h : i ≤ evs.length) : attachTarget (insertOther evs k n) (i + n) = attachTarget evs i := by
  -- both positions see `evs.take i`, with the block inside it on the left
  have hi : (evs.take i).length = i := List.length_take_of_le h
  have hl : (insertOther (evs.take i) k n).length = i + n := by
    simp only [insertOther, List.length_append, List.length_take, List.length_drop,
      List.length_replicate]
    omega
  have hk' : k ≤ (evs.take i).length := by omega
  conv => lhs; rw [← List.take_append_drop i evs]
  rw [insertOther, List.take_append_of_le_length hk', List.drop_append_of_le_length hk',
    ← List.append_assoc, ← insertOther, ← hl, attachTarget_append (Nat.le_refl _),
    ← attachTarget_noOther, noOther_insertOther, attachTarget_noOther]
  exact (attachTarget_take h).symm

theorem attached_sound {evs : List Ev} {t : Target} {u : UserData} (h : attached evs t = some u) :
    ∃ i, i < evs.length ∧ evs[i]? = some (.userData u) ∧ attachTarget evs i = some t := by
  obtain ⟨i, _, h1, h2, h3⟩ := attachedSince_sound h
  exact ⟨i, h1, h2, h3⟩

theorem attachedSince_none_of_no_record {evs : List Ev} {lo : Nat} {t : Target}
    (h : ∀ i u, evs[i]? = some (.userData u) → attachTarget evs i ≠ some t) :
    attachedSince evs lo t = none := by
  cases ha : attachedSince evs lo t with
  | none => rfl
  | some u =>
      obtain ⟨i, _, _, h1, h2⟩ := attachedSince_sound ha
      exact absurd h2 (h i u h1)

theorem attached_complete {evs : List Ev} (hnd : NoDouble evs) {i : Nat} {u : UserData}
    {t : Target} (he : evs[i]? = some (.userData u)) (ht : attachTarget evs i = some t) :
    attached evs t = some u := by
  have hi : i < evs.length := (List.getElem?_eq_some_iff.mp he).1
  have hrec : recordAt evs 0 t i = some u := by simp [recordAt, he, ht]
  cases ha : attached evs t with
  | none =>
      cases hrec.symm.trans (List.findSome?_eq_none_iff.mp ha i (by simp [hi]))
  | some u' =>
      obtain ⟨i', hi', h1, h2⟩ := attached_sound ha
      have hu : udAt evs i = true := by simp [udAt, he, Ev.isUD]
      have hu' : udAt evs i' = true := by simp [udAt, h1, Ev.isUD]
      cases hnd i hi i' hi' hu hu' (ht.trans h2.symm)
      cases he.symm.trans h1
      rfl

def isTags : Ev → Bool
  | .tags _ => true
  | _ => false

theorem lastTags_none_of_noTags (evs : List Ev) (h : evs.countP isTags = 0) :
    lastTags evs = none := by
  refine List.findSome?_eq_none_iff.mpr fun i _ => ?_
  unfold tagsAt
  split
  · rename_i n he
    cases List.countP_eq_zero.mp h _ (List.mem_of_getElem? he) rfl
  · rfl

theorem attachedSince_lastTags_eq : ∀ (evs : List Ev), evs.countP isTags ≤ 1 →
    ∀ j n, lastTags evs = some (j, n) →
      ∀ k, attachedSince evs j (.tag k) = attached evs (.tag k) := by
  intro evs
  induction evs using snoc_induction with
  | nil => intro _ j n h; cases h
  | snoc evs e ih =>
      intro hc j n hlt k
      rw [lastTags_snoc] at hlt
      unfold attached
      rw [attachedSince_snoc, attachedSince_snoc]
      cases e with
      | tags n' =>
          rw [countP_snoc_of_true _ _ rfl] at hc
          have hd : ¬ Live evs (.tag k) := fun h => h (lastTags_none_of_noTags evs (by omega))
          rw [attachedSince_dead evs _ _ hd, attachedSince_dead evs _ _ hd]
      | userData u =>
          rw [countP_snoc_of_false _ _ rfl] at hc
          simp only [Nat.le_of_lt (lastTags_lt _ _ _ hlt), true_and, Nat.zero_le]
          rw [ih hc j n hlt k]
          rfl
      | _ =>
          rw [countP_snoc_of_false _ _ rfl] at hc
          exact ih hc j n hlt k

end Ase.Proofs.C10
