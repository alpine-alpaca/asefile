import Ase.Parse
import Ase.Spec.Encode
import AseProofs.Lemmas.SimpAttr
/-
  Running a decoder over an encoding.  A fact `Reads p e v` rewrites in the middle of a `do`
  block (`Reads.bind_eq`: `(p >>= f) (e ++ r) = f v r`); with the input reassociated to the
  right, `simp only [rd, …]` consumes an encoding piece by piece this way.
-/
namespace Ase.Proofs
open Ase

theorem rd_pure_bind {σ α β} (a : α) (f : α → RdS σ β) (s : σ) :
    ((pure a : RdS σ α) >>= f) s = f a s := rfl

theorem rd_fail_bind {σ α β} (e : Err) (f : α → RdS σ β) (s : σ) :
    ((RdS.fail e : RdS σ α) >>= f) s = .err e := rfl

theorem rd_lift_ok_bind {σ α β} (a : α) (f : α → RdS σ β) (s : σ) :
    ((RdS.lift (.ok a) : RdS σ α) >>= f) s = f a s := rfl

theorem rd_ite_apply {σ α} (c : Prop) [Decidable c] (x y : RdS σ α) (s : σ) :
    (if c then x else y) s = if c then x s else y s := by
  split <;> rfl

theorem rd_run_bind {σ α β} (x : RdS σ α) (f : α → RdS σ β) (s : σ) :
    (x >>= f) s = (x s).bind fun a => f a.1 a.2 := by
  rw [RdS.bind_run]
  cases x s <;> rfl

theorem rd_bind_assoc {σ α β γ} (x : RdS σ α) (f : α → RdS σ β) (g : β → RdS σ γ)
    (s : σ) :
    ((x >>= f) >>= g) s = (x >>= fun a => f a >>= g) s := by
  simp only [RdS.bind_run]
  cases x s <;> rfl

/-- An optional field: `do` compiles `let a ← if c then p else q; f a` to
    `if c then p >>= f else q >>= f`, the encoder writes `if c then e else e'`.  Only the field is
    run in both branches, the continuation once on the joined result (`ite_ok`). -/
theorem rd_ite_bind {α β} (c : Prop) [Decidable c] (p q : Rd α) (f : α → Rd β)
    (e e' r : Bytes) :
    (if c then p >>= f else q >>= f) ((if c then e else e') ++ r) =
      (if c then p (e ++ r) else q (e' ++ r)).bind fun a => f a.1 a.2 := by
  split <;> exact rd_run_bind ..

theorem ite_ok {α σ} (c : Prop) [Decidable c] (a b : α) (s : σ) :
    (if c then Res.ok (a, s) else Res.ok (b, s)) = Res.ok (if c then a else b, s) := by
  split <;> rfl

@[simp] theorem zeros_length (n : Nat) : (zeros n).length = n := List.length_replicate
@[simp] theorem u16le_length (x : UInt16) : (u16le x).length = 2 := rfl
@[simp] theorem i16le_length (x : Int16) : (i16le x).length = 2 := rfl
@[simp] theorem u32le_length (x : UInt32) : (u32le x).length = 4 := rfl
@[simp] theorem i32le_length (x : Int32) : (i32le x).length = 4 := rfl
@[simp] theorem strle_length (s : Bytes) : (strle s).length = 2 + s.length := by
  rw [strle, List.length_append, u16le_length]

theorem le16_split (x : UInt16) :
    le16 (UInt8.ofNat (x.toNat % 256)) (UInt8.ofNat (x.toNat / 256)) = x := by
  have h : x.toNat / 256 < 256 := Nat.div_lt_of_lt_mul x.toNat_lt
  simp only [le16, UInt8.toNat_ofNat', Nat.mod_mod, Nat.mod_eq_of_lt h, Nat.mod_add_div]
  exact UInt16.ofNat_toNat

theorem le32_split (x : UInt32) :
    le32 (UInt8.ofNat (x.toNat % 256)) (UInt8.ofNat (x.toNat / 256 % 256))
      (UInt8.ofNat (x.toNat / 65536 % 256)) (UInt8.ofNat (x.toNat / 16777216)) = x := by
  have h : x.toNat / 16777216 < 256 := Nat.div_lt_of_lt_mul x.toNat_lt
  simp only [le32, UInt8.toNat_ofNat', Nat.mod_mod, Nat.mod_eq_of_lt h]
  calc _ = UInt32.ofNat x.toNat := congrArg _ (by omega)
    _ = x := UInt32.ofNat_toNat

/- a signed value is written as its unsigned image and read back by the inverse cast -/
theorem int16_roundtrip (x : Int16) : x.toUInt16.toInt16 = x := rfl
theorem int32_roundtrip (x : Int32) : x.toUInt32.toInt32 = x := rfl

/-- `p` decodes the bytes `e` to `v` and stops right behind them, whatever follows. -/
abbrev Reads {α} (p : Rd α) (e : Bytes) (v : α) : Prop := ∀ r, p (e ++ r) = .ok (v, r)

namespace Reads
variable {α β : Type} {p : Rd α} {e : Bytes} {a : α}

theorem bind_eq (h : Reads p e a) (f : α → Rd β) (r : Bytes) : (p >>= f) (e ++ r) = f a r :=
  RdS.bind_ok (h r)

theorem map (h : Reads p e a) (g : α → β) : Reads (p >>= fun x => pure (g x)) e (g a) :=
  fun r => h.bind_eq _ r

theorem rdRepeat {γ} {enc : γ → Bytes} {dec : γ → α} {xs : List γ}
    (h : ∀ x ∈ xs, Reads p (enc x) (dec x)) :
    Reads (rdRepeat p xs.length) (xs.map enc).flatten (xs.map dec) := by
  induction xs with
  | nil => exact fun _ => rfl
  | cons x t ih =>
      intro r
      rw [List.forall_mem_cons] at h
      rw [List.length_cons, List.map_cons, List.flatten_cons, List.append_assoc, Ase.rdRepeat,
        h.1.bind_eq, (ih h.2).bind_eq]
      rfl

end Reads

theorem readU16_of_read {σ} (S : Src σ) {s s' : σ} {b : Bytes} (h : S.read 2 s = .ok (b, s')) :
    readU16 S s = .ok (le16 (b.getD 0 0) (b.getD 1 0), s') := RdS.bind_ok h

theorem readU32_of_read {σ} (S : Src σ) {s s' : σ} {b : Bytes} (h : S.read 4 s = .ok (b, s')) :
    readU32 S s = .ok (le32 (b.getD 0 0) (b.getD 1 0) (b.getD 2 0) (b.getD 3 0), s') :=
  RdS.bind_ok h

/- C01's round trips of the primitives: each reader of `Ase/Bytes.lean` on an encoded value -/
theorem reads_read (n : Nat) (pad : Bytes) (h : pad.length = n) :
    Reads (bytesSrc.read n) pad pad := by
  subst h
  intro r
  show bytesRead pad.length (pad ++ r) = _
  rw [bytesRead, if_pos (by rw [List.length_append]; exact Nat.le_add_right _ _),
    List.take_left' rfl, List.drop_left' rfl]

theorem reads_u8 (x : UInt8) : Reads (readU8 bytesSrc) [x] x :=
  (reads_read 1 [x] rfl).map _

theorem reads_u16 (x : UInt16) : Reads (readU16 bytesSrc) (u16le x) x := fun r => by
  rw [readU16_of_read bytesSrc (reads_read 2 (u16le x) rfl r)]
  exact congrArg (fun v => Res.ok (v, r)) (le16_split x)

theorem reads_i16 (x : Int16) : Reads (readI16 bytesSrc) (i16le x) x :=
  (reads_u16 x.toUInt16).map _

theorem reads_u32 (x : UInt32) : Reads (readU32 bytesSrc) (u32le x) x := fun r => by
  rw [readU32_of_read bytesSrc (reads_read 4 (u32le x) rfl r)]
  exact congrArg (fun v => Res.ok (v, r)) (le32_split x)

theorem reads_i32 (x : Int32) : Reads (readI32 bytesSrc) (i32le x) x :=
  (reads_u32 x.toUInt32).map _

theorem reads_skip {n : Nat} {pad : Bytes} (h : pad.length = n) : Reads (skip bytesSrc n) pad () :=
  (reads_read n pad h).map _

theorem reads_str {s : Bytes} (hlen : s.length < 65536) (hutf : validUtf8 s = true) :
    Reads (readString bytesSrc) (strle s) s := fun r => by
  rw [readString, strle, List.append_assoc, (reads_u16 _).bind_eq,
    (reads_read _ s (UInt16.toNat_ofNat_of_lt' hlen).symm).bind_eq, hutf]
  rfl

theorem readN_bind {β} (n : Nat) (pad r : Bytes) (f : Bytes → Rd β) (h : pad.length = n) :
    (readN bytesSrc n >>= f) (pad ++ r) = f pad r :=
  (reads_read n pad h).bind_eq f r

theorem readU8_bind {β} (x : UInt8) (r : Bytes) (f : UInt8 → Rd β) :
    (readU8 bytesSrc >>= f) (x :: r) = f x r :=
  (reads_u8 x).bind_eq f r

theorem readU16_bind {β} (x : UInt16) (r : Bytes) (f : UInt16 → Rd β) :
    (readU16 bytesSrc >>= f) (u16le x ++ r) = f x r :=
  (reads_u16 x).bind_eq f r

theorem readI16_bind {β} (x : Int16) (r : Bytes) (f : Int16 → Rd β) :
    (readI16 bytesSrc >>= f) (i16le x ++ r) = f x r :=
  (reads_i16 x).bind_eq f r

theorem readU32_bind {β} (x : UInt32) (r : Bytes) (f : UInt32 → Rd β) :
    (readU32 bytesSrc >>= f) (u32le x ++ r) = f x r :=
  (reads_u32 x).bind_eq f r

theorem readI32_bind {β} (x : Int32) (r : Bytes) (f : Int32 → Rd β) :
    (readI32 bytesSrc >>= f) (i32le x ++ r) = f x r :=
  (reads_i32 x).bind_eq f r

theorem skip_bind {β} (n : Nat) (pad r : Bytes) (f : Unit → Rd β) (h : pad.length = n) :
    (skip bytesSrc n >>= f) (pad ++ r) = f () r :=
  (reads_skip h).bind_eq f r

theorem readString_bind {β} (s r : Bytes) (f : Bytes → Rd β)
    (hlen : s.length < 65536) (hutf : validUtf8 s = true) :
    (readString bytesSrc >>= f) (strle s ++ r) = f s r :=
  (reads_str hlen hutf).bind_eq f r

/- The facts are in `rd` only: the default simp set is 2–3 times dearer on these terms.
   `rd_ite_apply` is left out: it would fire before `rd_ite_bind` on the same term. -/
attribute [rd] List.append_assoc List.cons_append List.nil_append beq_iff_eq if_true if_false
  readU8_bind readU16_bind readI16_bind readU32_bind readI32_bind skip_bind
  readString_bind rd_pure_bind rd_lift_ok_bind rd_bind_assoc
  rd_ite_bind ite_ok RdS.pure_run RdS.lift_ok Res.bind_ok' Res.map_ok

end Ase.Proofs
