import AseProofs.Lemmas.Post
import AseProofs.Lemmas.NoPanic
/-
  `SatC A Q p` carries panic-freedom together with the consumption-aware postcondition, so that
  what a decoder delivers, how many bytes it consumed and that it does not panic come from one
  walk through its binds.  `A` is the assumption under which the decoder is panic-free
  (`InflNP inflate` for the decoders that inflate, anything for the others); the postcondition
  half never needs it.  `SatC.decode` hands all three to the chunk level (`RSatA`).
  Names: `SatC_rule` is a rule of the calculus, `SatC.x` projects from a `SatC` fact, `satC_f` is the
  statement about the reader `f`, `satC_reads` the tactic that walks a run of primitive reads.
-/
namespace Ase.Proofs.C12
open Ase C04 C05

def SatC {α} (A : Prop) (Q : α → Nat → Prop) (p : Rd α) : Prop :=
  ∀ bs, match p bs with
    | .ok (a, rest) => ∃ used, bs.length = used + rest.length ∧ Q a used
    | .err _ => True
    | .panic _ => ¬ A

variable {A : Prop}

theorem SatC.of_ok {α} {Q : α → Nat → Prop} {p : Rd α} (h : SatC A Q p) {bs rest : Bytes} {a : α}
    (hb : p bs = .ok (a, rest)) : ∃ used, bs.length = used + rest.length ∧ Q a used := by
  have := h bs
  rw [hb] at this
  exact this

theorem SatC.post {α} {Q : α → Nat → Prop} {P : α → Prop} {p : Rd α} (h : SatC A Q p)
    (hP : ∀ a n, Q a n → P a) : Post P p := by
  intro bs a rest hb
  obtain ⟨n, _, hQ⟩ := h.of_ok hb
  exact hP a n hQ

theorem SatC_pure {α} {Q : α → Nat → Prop} {a : α} (h : Q a 0) : SatC A Q (pure a : Rd α) :=
  fun bs => ⟨0, (Nat.zero_add bs.length).symm, h⟩

theorem SatC_fail {α} {Q : α → Nat → Prop} (e : Err) : SatC A Q (RdS.fail e : Rd α) :=
  fun _ => trivial

theorem SatC_lift {α} {Q : α → Nat → Prop} {r : Res α} (hnp : A → Res.NoPanic r)
    (h : ROk (fun a => Q a 0) r) : SatC A Q (RdS.lift r : Rd α) := by
  intro bs
  cases r with
  | ok a => exact ⟨0, (Nat.zero_add bs.length).symm, h a rfl⟩
  | err e => trivial
  | panic q => exact fun hA => hnp hA q rfl

theorem SatC_bind {α β} {P : α → Nat → Prop} {Q : β → Nat → Prop} {x : Rd α} {f : α → Rd β}
    (hx : SatC A P x) (hf : ∀ a n, P a n → SatC A (fun b k => Q b (n + k)) (f a)) :
    SatC A Q (x >>= f) := by
  intro bs
  have h := hx bs
  rw [RdS.bind_run]
  cases hxs : x bs with
  | ok r =>
      obtain ⟨a, s1⟩ := r
      rw [hxs] at h
      obtain ⟨n, hn, hP⟩ := h
      have h2 := hf a n hP s1
      simp only
      cases hfs : f a s1 with
      | ok r2 =>
          obtain ⟨b, rest⟩ := r2
          rw [hfs] at h2
          obtain ⟨k, hk, hQ⟩ := h2
          exact ⟨n + k, by omega, hQ⟩
      | err e => trivial
      | panic q => rw [hfs] at h2; exact h2
  | err e => trivial
  | panic q => rw [hxs] at h; exact h

theorem SatC_bind_lift {α β} {Q : β → Nat → Prop} {r : Res α} {f : α → Rd β}
    (hnp : A → Res.NoPanic r) (hf : ∀ a, r = .ok a → SatC A Q (f a)) :
    SatC A Q (RdS.lift r >>= f) := by
  refine SatC_bind (P := fun a n => n = 0 ∧ r = .ok a) (SatC_lift hnp (fun a ha => ⟨rfl, ha⟩))
    (fun a n h => ?_)
  obtain ⟨rfl, hr⟩ := h
  simpa only [Nat.zero_add] using hf a hr

theorem SatC_weaken {α} {P Q : α → Nat → Prop} {x : Rd α} (hx : SatC A P x)
    (h : ∀ a n, P a n → Q a n) : SatC A Q x := by
  intro bs
  have hb := hx bs
  cases hxs : x bs with
  | ok r =>
      rw [hxs] at hb
      obtain ⟨n, hn, hP⟩ := hb
      exact ⟨n, hn, h _ n hP⟩
  | err e => trivial
  | panic q => rw [hxs] at hb; exact hb

theorem SatC_ite {α} {Q : α → Nat → Prop} (c : Prop) [Decidable c] {p q : Rd α}
    (hp : SatC A Q p) (hq : SatC A Q q) : SatC A Q (if c then p else q) := by
  split
  · exact hp
  · exact hq

/-- for `do let a ← if c then p else q; f a`, which elaborates to this `if` of two binds -/
theorem SatC_ite_bind {α β} {P : α → Nat → Prop} {Q : β → Nat → Prop} (c : Prop) [Decidable c]
    {x y : Rd α} {f : α → Rd β} (hx : SatC A P x) (hy : SatC A P y)
    (hf : ∀ a n, P a n → SatC A (fun b k => Q b (n + k)) (f a)) :
    SatC A Q (if c then x >>= f else y >>= f) :=
  SatC_ite c (SatC_bind hx hf) (SatC_bind hy hf)

/-- the shape of `bytesSrc.read` and of `takeBytes` -/
theorem satC_take (e : Err) (n : Nat) : SatC A (fun b u => u = n ∧ b.length = n)
    (fun bs => if n ≤ bs.length then .ok (bs.take n, bs.drop n) else .err e) := by
  intro bs
  dsimp only
  by_cases h : n ≤ bs.length
  · rw [if_pos h]
    refine ⟨n, ?_, rfl, ?_⟩
    · rw [List.length_drop]
      omega
    · rw [List.length_take]
      exact Nat.min_eq_left h
  · rw [if_neg h]
    trivial

theorem satC_read (n : Nat) : SatC A (fun b u => u = n ∧ b.length = n) (bytesSrc.read n) :=
  satC_take _ n

/-- A reader that consumes exactly `k` bytes whenever it delivers and never panics (`∀ A`).  `k` is
    found by instance search, which lets `satC_reads` walk a run of primitive reads. -/
class FixedRead {α} (x : Rd α) (k : outParam Nat) : Prop where
  satC : ∀ {A : Prop}, SatC A (fun _ n => n = k) x

theorem SatC_bind_fixed {α β} {k : Nat} {Q : β → Nat → Prop} {x : Rd α} [FixedRead x k]
    {f : α → Rd β} (hf : ∀ a, SatC A (fun b n => Q b (k + n)) (f a)) : SatC A Q (x >>= f) :=
  SatC_bind FixedRead.satC (fun a n hn => by subst hn; exact hf a)

instance (n : Nat) : FixedRead (bytesSrc.read n) n := ⟨SatC_weaken (satC_read n) fun _ _ h => h.1⟩
instance : FixedRead (readU8 bytesSrc) 1 := ⟨SatC_bind_fixed fun _ => SatC_pure rfl⟩
instance : FixedRead (readU16 bytesSrc) 2 := ⟨SatC_bind_fixed fun _ => SatC_pure rfl⟩
instance : FixedRead (readI16 bytesSrc) 2 := ⟨SatC_bind_fixed fun _ => SatC_pure rfl⟩
instance : FixedRead (readU32 bytesSrc) 4 := ⟨SatC_bind_fixed fun _ => SatC_pure rfl⟩
instance : FixedRead (readI32 bytesSrc) 4 := ⟨SatC_bind_fixed fun _ => SatC_pure rfl⟩
instance (n : Nat) : FixedRead (skip bytesSrc n) n := ⟨SatC_bind_fixed fun _ => SatC_pure rfl⟩

theorem satC_readString : SatC A (fun s u => u = s.length + 2) (readString bytesSrc) := by
  unfold readString
  refine SatC_bind_fixed (fun len => ?_)
  refine SatC_bind (satC_read len.toNat) (fun b n hb => ?_)
  obtain ⟨rfl, hlen⟩ := hb
  refine SatC_ite _ (SatC_pure ?_) (SatC_fail _)
  omega

/-- a decoder run on a chunk's payload (`runChunk`), its value wrapped by `f`: `n` is the part of
    the payload the decoder consumed -/
theorem SatC.decode {α β} {Q : α → Nat → Prop} {p : Rd α} (h : SatC A Q p) (f : α → β)
    (data : Bytes) {P : β → Prop} (hP : ∀ a n, n ≤ data.length → Q a n → P (f a)) :
    RSatA A P ((runChunk p data).map f) := by
  have hb := h data
  unfold runChunk
  generalize p data = r at hb
  match r, hb with
  | .ok (a, rest), ⟨n, hn, hq⟩ => exact hP a n (by omega) hq
  | .err _, _ => trivial
  | .panic _, hb => exact hb

/-- the run of fixed-size reads at the head of a `do` block; stops at the first bind whose reader
    is not a `FixedRead` (a string, a sub-decoder, a lifted result) -/
macro "satC_reads" : tactic => `(tactic| with_reducible repeat refine SatC_bind_fixed (fun _ => ?_))

end Ase.Proofs.C12
