import Ase.InflateT
/-
  The total inflater `Ase.ZlibT` routine by routine.  One statement per routine (`Sat`) says what
  all of them have in common; the one about `inflateZlib` gives that its fuel is never
  exhausted, the expansion bound (at most 129 output bytes per consumed input bit) and that
  bytes after a complete zlib stream are not looked at.
-/
namespace Ase.ZlibT

theorem get!_append_left (a b : ByteArray) {i : Nat} (h : i < a.size) :
    (a ++ b).get! i = a.get! i := by
  cases a with
  | mk d =>
    simp only [ByteArray.size] at h
    show (ByteArray.mk d ++ b).data[i]! = d[i]!
    rw [ByteArray.data_append]
    simp only [getElem!_def, Array.getElem?_append_left h]

theorem extract_append_left (a b : ByteArray) {i j : Nat} (h : j ≤ a.size) :
    (a ++ b).extract i j = a.extract i j := by
  apply ByteArray.ext
  simp only [ByteArray.data_extract, ByteArray.data_append, Array.extract_append]
  have : j - a.data.size = 0 := by
    have : a.data.size = a.size := rfl
    omega
  rw [this]
  simp only [ByteArray.size_data, Array.extract_zero, Array.append_empty]

theorem mk_toArray_append (z pad : List UInt8) :
    ByteArray.mk (z ++ pad).toArray = ByteArray.mk z.toArray ++ ByteArray.mk pad.toArray := by
  apply ByteArray.ext
  simp only [ByteArray.data_append, List.append_toArray]

/-- `data'` extends `data`.  The decoder reads its input only through `byteAt` and `extract`,
    guarded by comparisons with `data.size`, so these three facts are all it can see. -/
structure Ext (data data' : ByteArray) : Prop where
  size_le : data.size ≤ data'.size
  get : ∀ i, i < data.size → byteAt data' i = byteAt data i
  extract : ∀ i j, j ≤ data.size → data'.extract i j = data.extract i j

theorem Ext.refl (data : ByteArray) : Ext data data :=
  ⟨Nat.le_refl _, fun _ _ => rfl, fun _ _ _ => rfl⟩

theorem ext_append (data extra : ByteArray) : Ext data (data ++ extra) where
  size_le := by
    rw [ByteArray.size_append]
    omega
  get := by
    intro i h
    unfold byteAt
    rw [get!_append_left _ _ h]
  extract := fun _ _ h => extract_append_left _ _ h

/-- `x` is the result of a step on the input, `x'` the result of the same step on an extension of
    the input (with at least as much fuel, where the step takes fuel).  The step does not fail for
    lack of fuel; if it succeeds, `Q` holds of its result, and it succeeds with the same result on
    the extension.  `ρ` is any of the decoder's result types, `err` its error constructor. -/
inductive SatG {ρ : Type} (err : ZErr → ρ) (Q : ρ → Prop) : ρ → ρ → Prop
  | ok {x : ρ} : Q x → SatG err Q x x
  | err {e : ZErr} {x' : ρ} : e ≠ .fuel → SatG err Q (err e) x'

/-- `Q` of the value and position of a successful step of the bit reader -/
@[reducible] def okR {α : Type} (Q : α → Nat → Prop) : R α → Prop
  | .ok a p => Q a p
  | .err _ => False

/-- `Q` of the value and position of a round of `codes` that did not fail -/
@[reducible] def okStep {α : Type} (Q : α → Nat → Prop) : Step α → Prop
  | .more a p => Q a p
  | .done a p => Q a p
  | .err _ => False

abbrev Sat {α : Type} (Q : α → Nat → Prop) : R α → R α → Prop := SatG R.err (okR Q)
abbrev StepSat {α : Type} (Q : α → Nat → Prop) : Step α → Step α → Prop :=
  SatG Step.err (okStep Q)

variable {ρ : Type} {err : ZErr → ρ} {S : ρ → Prop} {r r' : ρ}
variable {α : Type} {Q : α → Nat → Prop} {x x' : R α}

theorem SatG.corrupt : SatG err S (err .corrupt) r' := .err ZErr.noConfusion

theorem Sat.imp {Q' : α → Nat → Prop} (h : Sat Q x x') (hq : ∀ a p, Q a p → Q' a p) :
    Sat Q' x x' := by
  cases h with
  | ok h =>
      cases x with
      | ok a p => exact .ok (hq _ _ h)
      | err e => cases h
  | err h => exact .err h

theorem Sat.of_ok (h : Sat Q x x') {a : α} {p : Nat} (hx : x = .ok a p) : x' = .ok a p := by
  subst hx
  cases h
  rfl

/-- The model's `match y with | .err e => err e | .ok b p => f b p` enters as a variable `M` with
    its two equations (closed by `rfl` for every `match` of the model): each `match` of the model is
    a constant of its own, which unification finds here and could not identify with a `match`
    written in this statement unless both were on the same closed type. -/
theorem SatG.bind {β : Type} {P : β → Nat → Prop} {y y' : R β} (h : Sat P y y')
    {M : R β → (ZErr → ρ) → (β → Nat → ρ) → ρ} {f f' : β → Nat → ρ}
    (hf : ∀ b p, P b p → SatG err S (f b p) (f' b p))
    (herr : ∀ e g, M (.err e) err g = err e := by exact fun _ _ => rfl)
    (hok : ∀ b p g, M (.ok b p) err g = g b p := by exact fun _ _ _ => rfl) :
    SatG err S (M y err f) (M y' err f') := by
  cases h with
  | ok h =>
      cases y with
      | ok b p =>
          rw [hok, hok]
          exact hf _ _ h
      | err e => cases h
  | err h =>
      rw [herr]
      exact .err h

theorem SatG.ite {c : Prop} [Decidable c] {a b a' b' : ρ} (ht : c → SatG err S a a')
    (hf : ¬c → SatG err S b b') :
    SatG err S (if c then a else b) (if c then a' else b') := by
  split
  · exact ht ‹_›
  · exact hf ‹_›

variable {data data' : ByteArray}

theorem SatG.guard {n : Nat} {a a' : ρ} (hx : Ext data data')
    (h : n ≤ data.size → SatG err S a a') :
    SatG err S (if n > data.size then err .eof else a)
      (if n > data'.size then err .eof else a') := by
  by_cases c : n > data.size
  · rw [if_pos c]
    exact .err ZErr.noConfusion
  · rw [if_neg c, if_neg (Nat.not_lt.mpr (Nat.le_trans (Nat.le_of_not_gt c) hx.size_le))]
    exact h (Nat.le_of_not_gt c)

theorem getBit_sat (hx : Ext data data') (pos : Nat) :
    Sat (fun b pos' => pos' = pos + 1 ∧ pos + 1 ≤ 8 * data.size ∧ b < 2)
      (getBit data pos) (getBit data' pos) := by
  unfold getBit
  split
  · rename_i h
    rw [if_pos (by have := hx.size_le; omega), hx.get _ h]
    exact .ok ⟨rfl, by omega, Nat.mod_lt _ (by decide)⟩
  · exact .err ZErr.noConfusion

theorem getBits_sat (hx : Ext data data') : ∀ (n pos : Nat),
    Sat
      (fun v pos' =>
        pos' = pos + n ∧ v < 2 ^ n ∧ (pos ≤ 8 * data.size → pos' ≤ 8 * data.size))
      (getBits data n pos) (getBits data' n pos) := by
  intro n
  induction n with
  | zero =>
      intro pos
      exact .ok ⟨rfl, Nat.one_pos, id⟩
  | succ n ih =>
      intro pos
      simp only [getBits]
      refine (getBit_sat hx pos).bind fun b pos1 h1 => ?_
      refine (ih pos1).bind fun rest pos2 h2 => .ok ⟨by omega, ?_, by omega⟩
      rw [Nat.pow_succ]
      omega

theorem decodeLoop_sat (hx : Ext data data') (h : Huff) : ∀ (n len code first index pos : Nat),
    Sat (fun _ pos' => pos + 1 ≤ pos' ∧ pos' ≤ 8 * data.size)
      (decodeLoop data h n len code first index pos)
      (decodeLoop data' h n len code first index pos) := by
  intro n
  induction n with
  | zero =>
      intro len code first index pos
      exact .corrupt
  | succ n ih =>
      intro len code first index pos
      simp only [decodeLoop]
      refine (getBit_sat hx pos).bind fun b pos1 h1 => ?_
      refine .ite (fun _ => .ok ⟨by omega, by omega⟩) fun _ => ?_
      exact (ih ..).imp fun _ _ h => ⟨by omega, h.2⟩

theorem decodeSym_sat (hx : Ext data data') (h : Huff) (pos : Nat) :
    Sat (fun _ pos' => pos + 1 ≤ pos' ∧ pos' ≤ 8 * data.size)
      (decodeSym data h pos) (decodeSym data' h pos) :=
  decodeLoop_sat hx h ..

theorem size_copyMatch (dist : Nat) : ∀ (n : Nat) (out : ByteArray),
    (copyMatch dist n out).size = out.size + n := by
  intro n
  induction n with
  | zero =>
      intro out
      rfl
  | succ n ih =>
      intro out
      simp only [copyMatch, ih, ByteArray.size_push]
      omega

/-- a match is at most 258 bytes long -/
theorem lbase_bound : ∀ si, si < 29 → lbase[si]! + 2 ^ lext[si]! ≤ 259 := by decide +kernel

/-- the invariant of a step of a block: at least one bit forward, inside the input, at most 129
    output bytes per bit (a match: two bits at least for 258 bytes at most) -/
def Adv (data : ByteArray) (out : ByteArray) (pos : Nat) (out' : ByteArray) (pos' : Nat) : Prop :=
  pos + 1 ≤ pos' ∧ pos' ≤ 8 * data.size ∧ out'.size + 129 * pos ≤ out.size + 129 * pos'

theorem Adv.trans {data out o1 o2 : ByteArray} {pos p1 p2 : Nat} (h1 : Adv data out pos o1 p1)
    (h2 : Adv data o1 p1 o2 p2) : Adv data out pos o2 p2 := by
  unfold Adv at *
  omega

theorem Adv.of_le {data out o : ByteArray} {pos p1 p2 : Nat} (h : Adv data out p1 o p2)
    (hp : pos ≤ p1) : Adv data out pos o p2 := by
  unfold Adv at *
  omega

theorem codeStep_sat (hx : Ext data data') (lc dc : Huff) (out : ByteArray) (pos : Nat) :
    StepSat (Adv data out pos) (codeStep data lc dc out pos) (codeStep data' lc dc out pos) := by
  unfold codeStep
  refine .bind (decodeSym_sat hx lc pos) fun sym pos1 a => ?_
  refine .ite (fun _ => .ok ⟨a.1, a.2, by rw [ByteArray.size_push]; omega⟩) fun _ => ?_
  refine .ite (fun _ => .ok ⟨a.1, a.2, by omega⟩) fun _ => ?_
  -- as a variable: anything that evaluates `sym - 257` runs 257 levels deep
  generalize sym - 257 = si
  refine .ite (fun _ => .corrupt) fun hsi => ?_
  refine .bind (getBits_sat hx ..) fun ext pos2 b => ?_
  refine .bind (decodeSym_sat hx dc pos2) fun ds pos3 c => ?_
  refine .ite (fun _ => .corrupt) fun _ => ?_
  refine .bind (getBits_sat hx ..) fun dx pos4 d => .ok ⟨by omega, d.2.2 c.2, ?_⟩
  rw [size_copyMatch]
  have := lbase_bound si (by omega)
  omega

/-- every round consumes at least one bit, so fuel for the remaining bits and one more is enough -/
theorem codes_sat (hx : Ext data data') (lc dc : Huff) :
    ∀ (fuel fuel' : Nat) (out : ByteArray) (pos : Nat),
    1 ≤ fuel → 8 * data.size < fuel + pos → fuel ≤ fuel' →
    Sat (Adv data out pos) (codes data lc dc fuel out pos) (codes data' lc dc fuel' out pos) := by
  intro fuel
  induction fuel with
  | zero => intro _ _ _ h; omega
  | succ fuel ih =>
      intro fuel' out pos _ hf hle
      obtain ⟨fuel', rfl⟩ : ∃ f, fuel' = f + 1 := ⟨fuel' - 1, by omega⟩
      simp only [codes]
      have h := codeStep_sat hx lc dc out pos
      generalize codeStep data lc dc out pos = s, codeStep data' lc dc out pos = s' at h
      cases h with
      | err h => exact .err h
      | ok h =>
          cases s with
          | err e => cases h
          | done out' pos' => exact .ok h
          | more out' pos' =>
              -- `id`: a copy of `h : Adv ..` (a `def`) is taken apart, `h` itself is used below
              obtain ⟨h1, h2, _⟩ := id h
              exact (ih fuel' _ _ (by omega) (by omega) (by omega)).imp fun _ _ h' => h.trans h'

theorem readCl_sat (hx : Ext data data') : ∀ (n i : Nat) (cl : Array Nat) (pos : Nat),
    Sat (fun _ pos' => pos ≤ pos') (readCl data n i cl pos) (readCl data' n i cl pos) := by
  intro n
  induction n with
  | zero => intro i cl pos; exact .ok (Nat.le_refl _)
  | succ n ih =>
      intro i cl pos
      simp only [readCl]
      exact (getBits_sat hx ..).bind fun v pos1 h => (ih ..).imp fun _ _ h' => by omega

theorem lenStep_sat (hx : Ext data data') (lc : Huff) (total : Nat) (acc : Lens) (pos : Nat) :
    Sat (fun acc' pos' => pos ≤ pos' ∧ acc.n + 1 ≤ acc'.n)
      (lenStep data lc total acc pos) (lenStep data' lc total acc pos) := by
  unfold lenStep
  refine (decodeSym_sat hx lc pos).bind fun sym pos1 a => ?_
  refine .ite (fun _ => .ok ⟨by omega, Nat.le_refl _⟩) fun _ => ?_
  refine .ite (fun _ => .ite (fun _ => .corrupt) fun _ => ?_) fun _ =>
    .ite (fun _ => ?_) fun _ => ?_
  -- the three repeat codes: `base + x` more code lengths, `x` read from 2, 3 or 7 bits
  all_goals
    exact (getBits_sat hx ..).bind fun x pos2 b =>
      .ite (fun _ => .corrupt) fun _ => .ok ⟨by omega, by simp only []; omega⟩

/-- every round adds at least one entry, so `total - acc.n` rounds suffice -/
theorem readLengths_sat (hx : Ext data data') (lc : Huff) (total : Nat) :
    ∀ (fuel : Nat) (acc : Lens) (pos : Nat), total ≤ fuel + acc.n →
    Sat (fun _ pos' => pos ≤ pos') (readLengths data lc total fuel acc pos)
      (readLengths data' lc total fuel acc pos) := by
  intro fuel
  induction fuel with
  | zero =>
      intro acc pos hf
      simp only [readLengths]
      exact .ite (fun _ => .ok (Nat.le_refl _)) fun _ => by omega
  | succ fuel ih =>
      intro acc pos hf
      simp only [readLengths]
      refine .ite (fun _ => .ok (Nat.le_refl _)) fun _ => ?_
      refine (lenStep_sat hx lc total acc pos).bind fun _ _ h => ?_
      exact (ih _ _ (by omega)).imp fun _ _ h' => by omega

theorem dynamicBlock_sat (hx : Ext data data') (fuel fuel' : Nat) (out : ByteArray) (pos : Nat)
    (h1 : 1 ≤ fuel) (hf : 8 * data.size < fuel + pos) (hle : fuel ≤ fuel') :
    Sat (Adv data out pos) (dynamicBlock data fuel out pos) (dynamicBlock data' fuel' out pos) := by
  unfold dynamicBlock
  refine (getBits_sat hx ..).bind fun a pos1 ha => ?_
  refine (getBits_sat hx ..).bind fun b pos2 hb => ?_
  refine (getBits_sat hx ..).bind fun c pos3 hc => ?_
  refine .ite (fun _ => .corrupt) fun _ => ?_
  refine (readCl_sat hx ..).bind fun cl pos4 hcl => ?_
  generalize construct cl.toList = t
  obtain ⟨lencode, left⟩ := t
  refine .ite (fun _ => .corrupt) fun _ => ?_
  refine (readLengths_sat hx lencode _ _ _ pos4 (Nat.le_add_right _ _)).bind fun lens pos5 hl => ?_
  refine .ite (fun _ => .corrupt) fun _ => ?_
  generalize construct (List.take (a + 257) lens.rev.reverse) = t
  obtain ⟨lc, l1⟩ := t
  refine .ite (fun _ => .corrupt) fun _ => ?_
  generalize construct (List.drop (a + 257) lens.rev.reverse) = t
  obtain ⟨dc, l2⟩ := t
  refine .ite (fun _ => .corrupt) fun _ => ?_
  have hp : pos ≤ pos5 := by omega
  exact (codes_sat hx lc dc fuel fuel' out pos5 h1 (by omega) hle).imp fun _ _ h => h.of_le hp

theorem storedBlock_sat (hx : Ext data data') (out : ByteArray) (pos : Nat) :
    Sat (Adv data out pos) (storedBlock data out pos) (storedBlock data' out pos) := by
  unfold storedBlock
  simp only []
  have hp : pos ≤ 8 * ((pos + 7) / 8) := by omega
  generalize (pos + 7) / 8 = p at hp
  refine .guard hx fun h4 => ?_
  rw [hx.get p (by omega), hx.get (p + 1) (by omega), hx.get (p + 2) (by omega),
    hx.get (p + 3) (by omega)]
  refine .ite (fun _ => .corrupt) fun _ => ?_
  generalize byteAt data p + 256 * byteAt data (p + 1) = len
  refine .guard hx fun hl => ?_
  rw [hx.extract _ _ hl]
  refine .ok ?_
  show _ ∧ _ ∧ _
  rw [ByteArray.size_append, ByteArray.size_extract]
  omega

theorem block_sat (hx : Ext data data') (ty : Nat) (out : ByteArray) (pos : Nat)
    (hp : pos ≤ 8 * data.size) :
    Sat (Adv data out pos) (block data ty out pos) (block data' ty out pos) := by
  have hs := hx.size_le
  unfold block
  split
  · exact storedBlock_sat hx out pos
  · exact codes_sat hx _ _ _ _ out pos (by omega) (by omega) (by omega)
  · exact dynamicBlock_sat hx _ _ out pos (by omega) (by omega) (by omega)
  · exact .corrupt

/-- every block consumes at least three bits, so one unit of fuel per remaining bit is enough -/
theorem blocks_sat (hx : Ext data data') : ∀ (fuel fuel' : Nat) (out : ByteArray) (pos : Nat),
    pos ≤ 8 * data.size → 8 * data.size < fuel + pos → fuel ≤ fuel' →
    Sat (Adv data out pos) (blocks data fuel out pos) (blocks data' fuel' out pos) := by
  intro fuel
  induction fuel with
  | zero => intro _ _ _ h1 h2; omega
  | succ fuel ih =>
      intro fuel' out pos hp hf hle
      obtain ⟨fuel', rfl⟩ : ∃ f, fuel' = f + 1 := ⟨fuel' - 1, by omega⟩
      simp only [blocks]
      refine (getBit_sat hx pos).bind fun last pos1 h1 => ?_
      refine (getBits_sat hx 2 pos1).bind fun ty pos2 h2 => ?_
      refine (block_sat hx ty out pos2 (h2.2.2 (by omega))).bind fun out' pos3 h => ?_
      have h := h.of_le (show pos ≤ pos2 by omega)
      obtain ⟨a1, a2, _⟩ := id h
      refine .ite (fun _ => .ok h) fun _ => ?_
      exact (ih fuel' _ _ a2 (by omega) (by omega)).imp fun _ _ h' => h.trans h'

/-- 1032 = 8 · 129 and 2064 = 16 · 129: `Adv` from bit 16, behind the two header bytes, with the
    empty output -/
theorem inflateZlib_sat (hx : Ext data data') :
    inflateZlib data ≠ .error .fuel ∧
      ∀ out, inflateZlib data = .ok out →
        out.size + 2064 ≤ 1032 * data.size ∧ inflateZlib data' = .ok out := by
  have h : SatG .error (fun r => ∃ out, r = .ok out ∧ out.size + 2064 ≤ 1032 * data.size)
      (inflateZlib data) (inflateZlib data') := by
    unfold inflateZlib
    refine .guard hx fun h2 => ?_
    simp only []
    rw [hx.get 0 (by omega), hx.get 1 (by omega)]
    refine .ite (fun _ => .corrupt) fun _ => ?_
    refine (blocks_sat hx _ _ .empty 16 (by omega) (by omega)
      (Nat.mul_le_mul_left 8 hx.size_le)).bind fun o pos h => ?_
    generalize (pos + 7) / 8 = p
    refine .guard hx fun h4 => ?_
    rw [hx.get p (by omega), hx.get (p + 1) (by omega), hx.get (p + 2) (by omega),
      hx.get (p + 3) (by omega)]
    refine .ite (fun _ => .corrupt) fun _ => .ok ⟨o, rfl, ?_⟩
    obtain ⟨_, a2, a3⟩ := h
    rw [ByteArray.size_empty] at a3
    omega
  generalize inflateZlib data = r, inflateZlib data' = r' at h
  cases h with
  | err h => exact ⟨fun h' => h (Except.error.inj h'), nofun⟩
  | ok h =>
      obtain ⟨out, rfl, hb⟩ := h
      refine ⟨nofun, fun _ e => ?_⟩
      cases e
      exact ⟨hb, rfl⟩

theorem inflateZlib_size {input out : ByteArray} (h : inflateZlib input = .ok out) :
    out.size + 2064 ≤ 1032 * input.size :=
  ((inflateZlib_sat (Ext.refl input)).2 out h).1

theorem blocks_of_prefix {z z' : Bytes} (hp : z <+: z') (h2 : 2 ≤ z.length) {out : ByteArray}
    {pos : Nat} (hb : blocks ⟨z.toArray⟩ (8 * z.length) .empty 16 = .ok out pos) :
    blocks ⟨z'.toArray⟩ (8 * (ByteArray.mk z'.toArray).size) .empty 16 = .ok out pos := by
  obtain ⟨t, rfl⟩ := hp
  have hx := ext_append ⟨z.toArray⟩ ⟨t.toArray⟩
  rw [← mk_toArray_append] at hx
  exact (blocks_sat hx _ _ .empty 16 (Nat.mul_le_mul_left 8 h2)
    (Nat.lt_add_of_pos_right (by decide)) (Nat.mul_le_mul_left 8 hx.size_le)).of_ok hb

end Ase.ZlibT
