import AseProofs.Lemmas.Decoders
import AseProofs.Lemmas.Machine
import AseProofs.Lemmas.Uniform
/-
  Panic-freedom of the `ParseInfo` state machine (that of the framing layer is in `Uniform.lean`,
  that of the validation stage in `ValidParse.lean`).  The state machine needs an invariant: the induction over chunks and
  frames (`sat_parseFrames`) takes any invariant that every step keeps; `CtxInv` with
  `rsat_stepSem` is the one C04 puts in.
-/
namespace Ase.Proofs.C04
open Ase Ase.Proofs Ase.Proofs.Machine

/-- The invariant of `ParseInfo` that makes `self.data[frame]` in `add_user_data` safe:
    a cel context names a frame that exists in the cel table. -/
def CtxInv (pi : ParseInfo) : Prop := ∀ f l, pi.ctx = some (.cel f l) → f < pi.cels.size

theorem ctxInv_new (n : Nat) (t : UInt16) : CtxInv (ParseInfo.new n t) :=
  fun _ _ h => nomatch h

theorem ctxInv_of_ctx {pi : ParseInfo} (h : ∀ f l, pi.ctx ≠ some (.cel f l)) : CtxInv pi :=
  fun f l hc => absurd hc (h f l)

theorem rsat_addCel (pi : ParseInfo) (frame : Nat) (cel : RawCel RawPixels) :
    RSat CtxInv (pi.addCel frame cel) := by
  unfold ParseInfo.addCel
  split
  · trivial
  · rename_i row hrow
    -- substitutes the `let layer`, under which `split` does not look
    dsimp only
    split
    · trivial
    · intro f l h
      obtain ⟨rfl, rfl⟩ := h
      simp only [Array.set!_eq_setIfInBounds, Array.size_setIfInBounds]
      exact lt_size_of_getElem? hrow

theorem rsat_addUserData (pi : ParseInfo) (ud : UserData) (hinv : CtxInv pi) :
    RSat CtxInv (pi.addUserData ud) := by
  unfold ParseInfo.addUserData
  split
  · -- no context
    trivial
  · -- cel: the invariant makes `cels[f]?` succeed, and the table keeps its size
    rename_i f l hctx
    rw [Array.getElem?_eq_getElem (hinv f l hctx)]
    dsimp only
    split
    · trivial
    · intro f' l' h
      rw [Array.set!_eq_setIfInBounds, Array.size_setIfInBounds]
      exact hinv f' l' h
  · -- layer
    split
    · trivial
    · exact hinv
  · -- sprite
    exact hinv
  · -- tag: the context moves to the next tag
    split
    · trivial
    · split
      · trivial
      · exact ctxInv_of_ctx nofun
  · -- slice
    split
    · trivial
    · exact hinv

theorem rsat_stepSem (frame : Nat) (pi : ParseInfo) (it : Spec.SItem) (hinv : CtxInv pi) :
    RSat CtxInv (Spec.stepSem frame pi it) := by
  cases it with
  | cel c => exact rsat_addCel _ _ _
  | userData u => exact rsat_addUserData _ _ hinv
  | layer l => exact ctxInv_of_ctx nofun
  | slice s => exact ctxInv_of_ctx nofun
  | tags ts =>
      simp only [Spec.stepSem]
      split
      · exact ctxInv_of_ctx nofun
      · exact hinv
  | oldPalette p =>
      rw [WholeFile.stepSem_oldPalette]
      exact ctxInv_of_ctx nofun
  | _ => exact hinv

section induction
variable {I : ParseInfo → Prop} {σ : Type} {S : Src σ} {inflate : Inflate} {m : Profile}
  {fmt : PixelFormat}
  (hstep : ∀ frame pi it, I pi → RSat I (Spec.stepSem frame pi it))
  (hft : ∀ pi ft, I pi → I { pi with frameTimes := ft })
  (hS : SrcNP S) (hi : InflNP inflate)
include hstep hi

theorem rsat_processChunks (frame : Nat) : ∀ (cs : List Chunk) (pi : ParseInfo), I pi →
    RSat I (processChunks inflate m fmt frame pi cs)
  | [], _, hI => hI
  | c :: cs, pi, hI => by
      rw [processChunks_cons, processChunk_eq]
      exact (((C12.decodeChunk_spec inflate m fmt _ c).rsat hi).bind fun it _ =>
        hstep frame pi it hI).bind (rsat_processChunks frame cs)

include hft hS

/-- The never-panics companion of `Machine.parseFrames_induct`: an invariant `I` of the state
    machine whose failure may be a panic.  Supply `hstep` (every step keeps `I` and does not
    panic) and `hft` (`I` does not look at the frame times); the source and the inflater must
    not panic either.  Unlike there, `hstep` is for every item, not only for decoded ones. -/
theorem sat_parseFrames : ∀ {n frame : Nat} {pi : ParseInfo}, I pi →
    Sat I (parseFrames S inflate m fmt n frame pi)
  | 0, _, _, hI => Sat_pure hI
  | _ + 1, frame, _, hI =>
      -- `parseFrame` (header, chunks, `processChunks`), then the remaining frames
      Sat_bind (Sat_bind_np (SrcSim.uniform_readFrameHeader.np hS) fun _ =>
        Sat_bind_np ((SrcSim.uniform_readChunks _ _).np hS) fun cs =>
        Sat_lift (rsat_processChunks hstep hi frame cs _ (hft _ _ hI))) fun _ => sat_parseFrames

end induction

end Ase.Proofs.C04
