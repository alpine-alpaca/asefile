import Lean.Meta.Tactic.Simp.RegisterCommand
/- The two simp sets of the library. Lean does not let a module use an attribute it registers
   itself, hence the file of its own. -/

/-- rules that run a reader over an input of the form `e₁ ++ (e₂ ++ …)`
    (filled by `Lemmas/RoundTrip.lean`) -/
register_simp_attr rd

/-- the equations that express `specState nf (evs ++ [e])`, for a constructor `e`, field by field
    in terms of `evs` (filled by `Lemmas/AttachMachine.lean`) -/
register_simp_attr attach_snoc
