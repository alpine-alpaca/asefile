import Ase.Util
/-
  Lemmas behind C18: indexing into a concatenation of equally long rows, injectivity of the
  colour key.
-/
namespace Ase.Proofs.UtilLemmas
open Ase Ase.Util

theorem length_flatMap_uniform {α β} (f : α → List β) (n : Nat) :
    ∀ (l : List α), (∀ a ∈ l, (f a).length = n) → (l.flatMap f).length = l.length * n
  | [], _ => (Nat.zero_mul n).symm
  | a :: l, h => by
      rw [List.flatMap_cons, List.length_append, h a (List.mem_cons_self ..),
        length_flatMap_uniform f n l fun b hb => h b (List.mem_cons_of_mem _ hb),
        List.length_cons, Nat.succ_mul, Nat.add_comm]

theorem getElem?_flatMap_uniform {α β} (f : α → List β) (n : Nat) :
    ∀ (l : List α), (∀ a ∈ l, (f a).length = n) → ∀ (y x : Nat), x < n →
      (l.flatMap f)[y * n + x]? = (l[y]?).bind (fun a => (f a)[x]?)
  | [], _, _, _, _ => rfl
  | a :: l, h, 0, x, hx => by
      have h1 := h a (List.mem_cons_self ..)
      rw [List.flatMap_cons, Nat.zero_mul, Nat.zero_add, List.getElem?_append_left (h1.symm ▸ hx)]
      rfl
  | a :: l, h, y + 1, x, hx => by
      have h1 := h a (List.mem_cons_self ..)
      have hge : (f a).length ≤ (y + 1) * n + x := by
        rw [h1, Nat.succ_mul]
        omega
      have hsub : (y + 1) * n + x - n = y * n + x := by
        rw [Nat.succ_mul]
        omega
      rw [List.flatMap_cons, List.getElem?_append_right hge, h1, hsub,
        getElem?_flatMap_uniform f n l (fun b hb => h b (List.mem_cons_of_mem _ hb)) y x hx]
      rfl

theorem assocGet?_nil {α} (k : Nat) : assocGet? k ([] : List (Nat × α)) = none := rfl

theorem colorKey_inj (r g b r' g' b' : UInt8) :
    colorKey r g b = colorKey r' g' b' ↔ (r = r' ∧ g = g' ∧ b = b') := by
  have := r.toNat_lt; have := g.toNat_lt; have := b.toNat_lt
  have := r'.toNat_lt; have := g'.toNat_lt; have := b'.toNat_lt
  simp only [colorKey, ← UInt8.toNat_inj]
  omega

end Ase.Proofs.UtilLemmas
