import AseProofs.Lemmas.AttachSim
/-
  C10, from single chunks to chunk lists, frames and `parseFrames`: a successful run of the model
  is a run of the abstract machine over the chunks' events, and when every chunk decodes the
  model's run IS the abstract run, failures included.
-/
namespace Ase.Proofs.C10
open Ase Ase.Spec Ase.Proofs.C05

/-- `c` decodes to `ev` for SOME state of the palette: what a successful run tells of it -/
def ChunkEv (inflate : Inflate) (m : Profile) (fmt : PixelFormat) (frame : Nat) (c : Chunk)
    (ev : Ev) : Prop :=
  ∃ palNone, decodeEv inflate m fmt frame palNone c = .ok ev

/-- `c` decodes to `ev` whether or not a palette has been stored: what predicting a run needs -/
def DecodesAs (inflate : Inflate) (m : Profile) (fmt : PixelFormat) (frame : Nat) (c : Chunk)
    (ev : Ev) : Prop :=
  ∀ palNone, decodeEv inflate m fmt frame palNone c = .ok ev

theorem processChunks_sim {inflate : Inflate} {m : Profile} {fmt : PixelFormat} {frame : Nat} :
    ∀ (cs : List Chunk) (pi pi' : ParseInfo),
      processChunks inflate m fmt frame pi cs = .ok pi' →
      ∃ evs, All₂ (ChunkEv inflate m fmt frame) cs evs ∧
        absRun (proj pi) evs = .ok (proj pi') := by
  intro cs
  induction cs with
  | nil =>
      intro pi pi' h
      cases h
      exact ⟨[], .nil, rfl⟩
  | cons c cs ih =>
      intro pi pi' h
      obtain ⟨pi1, hp, h⟩ := processChunks_cons_eq_ok h
      have hs := processChunk_sim inflate m fmt frame pi c
      rw [hp] at hs
      obtain ⟨ev, hd, hstep⟩ := Res.bind_eq_ok hs.symm
      obtain ⟨evs, hevs, hrun⟩ := ih pi1 pi' h
      exact ⟨ev :: evs, .cons ⟨_, hd⟩ hevs, by simp only [absRun, hstep]; exact hrun⟩

theorem processChunks_complete {inflate : Inflate} {m : Profile} {fmt : PixelFormat}
    {frame : Nat} : ∀ (cs : List Chunk) (evs : List Ev) (pi : ParseInfo),
      All₂ (DecodesAs inflate m fmt frame) cs evs →
      (processChunks inflate m fmt frame pi cs).map proj = absRun (proj pi) evs := by
  intro cs evs pi h
  induction h generalizing pi with
  | nil => rfl
  | @cons c ev cs evs hd _ ih =>
      have hs := processChunk_sim inflate m fmt frame pi c
      rw [hd pi.palette.isNone, Res.bind_ok'] at hs
      unfold processChunks
      simp only [absRun, ← hs]
      cases processChunk inflate m fmt frame pi c with
      | ok pi1 => exact ih pi1
      | err e => rfl
      | panic p => rfl

/-- the state machine over a whole file: per frame the duration and the chunk list
    (`parseFrames` without the byte-level framing).  Not `Spec.runFrames`, which runs over decoded
    items (`Machine.processChunk_eq` is the link, chunk by chunk): this one runs
    the model's `processChunks`, so that `runFrames_complete` equates failures as well. -/
def runFrames (inflate : Inflate) (m : Profile) (fmt : PixelFormat) :
    Nat → ParseInfo → List (UInt16 × List Chunk) → Res ParseInfo
  | _, pi, [] => .ok pi
  | frame, pi, (d, cs) :: rest =>
      match processChunks inflate m fmt frame
          { pi with frameTimes := pi.frameTimes.set! frame d } cs with
      | .ok pi' => runFrames inflate m fmt (frame + 1) pi' rest
      | .err e => .err e
      | .panic p => .panic p

/-- event lists, frame by frame, of the chunk lists of frames `frame, frame+1, …` -/
def FramesRel (R : Nat → Chunk → Ev → Prop) :
    Nat → List (UInt16 × List Chunk) → List (List Ev) → Prop
  | _, [], [] => True
  | frame, (_, cs) :: rest, evs :: evss =>
      All₂ (R frame) cs evs ∧ FramesRel R (frame + 1) rest evss
  | _, _, _ => False

theorem proj_frameTimes (pi : ParseInfo) (ft : Array UInt16) :
    proj { pi with frameTimes := ft } = proj pi := rfl

theorem runFrames_sim {inflate : Inflate} {m : Profile} {fmt : PixelFormat} :
    ∀ (fs : List (UInt16 × List Chunk)) (frame : Nat) (pi pi' : ParseInfo),
      runFrames inflate m fmt frame pi fs = .ok pi' →
      ∃ evss, FramesRel (ChunkEv inflate m fmt) frame fs evss ∧
        absRun (proj pi) evss.flatten = .ok (proj pi') := by
  intro fs
  induction fs with
  | nil =>
      intro frame pi pi' h
      cases h
      exact ⟨[], trivial, rfl⟩
  | cons f fs ih =>
      obtain ⟨d, cs⟩ := f
      intro frame pi pi' h
      unfold runFrames at h
      split at h
      · rename_i pi1 hp
        obtain ⟨evs, hevs, hrun⟩ := processChunks_sim cs _ pi1 hp
        rw [proj_frameTimes] at hrun
        obtain ⟨evss, hevss, hrun'⟩ := ih (frame + 1) pi1 pi' h
        refine ⟨evs :: evss, ⟨hevs, hevss⟩, ?_⟩
        rw [List.flatten_cons, absRun_append, hrun]
        exact hrun'
      · cases h
      · cases h

theorem runFrames_complete {inflate : Inflate} {m : Profile} {fmt : PixelFormat} :
    ∀ (fs : List (UInt16 × List Chunk)) (evss : List (List Ev)) (frame : Nat) (pi : ParseInfo),
      FramesRel (DecodesAs inflate m fmt) frame fs evss →
      (runFrames inflate m fmt frame pi fs).map proj = absRun (proj pi) evss.flatten := by
  intro fs
  induction fs with
  | nil =>
      intro evss frame pi h
      cases evss with
      | nil => rfl
      | cons _ _ => exact h.elim
  | cons f fs ih =>
      obtain ⟨d, cs⟩ := f
      intro evss frame pi h
      cases evss with
      | nil => exact h.elim
      | cons evs evss =>
          obtain ⟨h1, h2⟩ := h
          have hc := processChunks_complete cs evs
            { pi with frameTimes := pi.frameTimes.set! frame d } h1
          rw [proj_frameTimes] at hc
          unfold runFrames
          rw [List.flatten_cons, absRun_append, ← hc]
          cases hp : processChunks inflate m fmt frame
              { pi with frameTimes := pi.frameTimes.set! frame d } cs with
          | ok pi1 => simp only [Res.map_ok, Res.bind_ok']; exact ih evss (frame + 1) pi1 h2
          | err e => rfl
          | panic p => rfl

section parse
variable {σ : Type} (S : Src σ)

theorem parseFrames_runFrames {inflate : Inflate} {m : Profile} {fmt : PixelFormat} :
    ∀ (n frame : Nat) (pi pi' : ParseInfo) (s s' : σ),
      parseFrames S inflate m fmt n frame pi s = .ok (pi', s') →
      ∃ fs, fs.length = n ∧ runFrames inflate m fmt frame pi fs = .ok pi' := by
  intro n
  induction n with
  | zero =>
      intro frame pi pi' s s' h
      cases h
      exact ⟨[], rfl, rfl⟩
  | succ n ih =>
      intro frame pi pi' s s' h
      obtain ⟨pi1, s1, hf, h⟩ := parseFrames_succ_eq_ok h
      obtain ⟨fh, _, cs, _, _, hcs⟩ := parseFrame_eq_ok hf
      obtain ⟨fs, hlen, hrun⟩ := ih (frame + 1) pi1 pi' s1 s' h
      refine ⟨(fh.duration, cs) :: fs, by simp [hlen], ?_⟩
      simp only [runFrames, hcs]
      exact hrun

end parse

end Ase.Proofs.C10
