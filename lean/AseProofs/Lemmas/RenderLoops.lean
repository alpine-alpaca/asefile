import AseProofs.Lemmas.Paint
/-
  The renderer's four loops are folds, over index ranges, of one step each: `rawCol`, `rawRow`,
  `tilePx`, `tileAt` are the bodies of `writeRawRow`, `writeRawRows`, `writeTilePixels`,
  `writeTiles` for one index.  `f old p` stands for `Blend.blend ops m mode old p opacity`, the
  only place where the loops use `ops`, `m`, `mode` and the opacity.
-/
namespace Ase.Proofs
open Ase

section
variable (f : RGBA → RGBA → Res RGBA)

def rawCol (pixels : Array RGBA) (cw : Nat) (x0 : Int) (y row : Nat) (img : Image) (col : Nat) :
    Res Image :=
  if x0 + col < 0 || x0 + col ≥ (img.w : Int) then .ok img
  else
    match pixels[row * cw + col]? with
    | none => .panic .index
    | some p => blendAt (f · p) img (x0 + col).toNat y

def rawRow (pixels : Array RGBA) (cw : Nat) (x0 y0 : Int) (img : Image) (row : Nat) : Res Image :=
  if y0 + row < 0 || y0 + row ≥ (img.h : Int) then .ok img
  else (List.range' 0 cw).foldlM (rawCol f pixels cw x0 (y0 + row).toNat row) img

def tilePx (tp : Array RGBA) (tw : Nat) (bx by_ : Int) (img : Image) (idx : Nat) : Res Image :=
  match tp[idx]? with
  | none => .panic .index
  | some p =>
      if 0 ≤ bx + (idx % tw : Nat) && bx + (idx % tw : Nat) < (img.w : Int) &&
          0 ≤ by_ + (idx / tw : Nat) && by_ + (idx / tw : Nat) < (img.h : Int) then
        blendAt (f · p) img (bx + (idx % tw : Nat)).toNat (by_ + (idx / tw : Nat)).toNat
      else .ok img

def tileAt (t : TilemapData) (pixels : Array RGBA) (tw th : Nat) (cx cy : Int) (img : Image)
    (idx : Nat) : Res Image :=
  match t.tiles[idx / t.width.toNat * t.width.toNat + idx % t.width.toNat]? with
  | none => .panic .unwrapNone
  | some id =>
      if tw * th * id.toNat + tw * th > pixels.size then .panic .sliceRange
      else
        (List.range' 0 (tw * th)).foldlM
          (tilePx f (pixels.extract (tw * th * id.toNat) (tw * th * id.toNat + tw * th)) tw
            ((idx % t.width.toNat * tw : Nat) + cx) ((idx / t.width.toNat * th : Nat) + cy)) img

end

/-- The renderer writes `r >>= k` as a match.  This and `blendAt_bind` close goals of the loop
    equations by `exact`: the model's matchers and the ones here are different constants that
    unfold to the same `casesOn`, so rewriting would not find them. -/
theorem match_bind (r : Res Image) (k : Image → Res Image) :
    (match r with
      | .ok img' => k img'
      | .err e => .err e
      | .panic s => .panic s) = r >>= k := by
  cases r <;> rfl

theorem blendAt_bind (g : RGBA → Res RGBA) (img : Image) (x y : Nat) (k : Image → Res Image) :
    (match img.get x y with
      | .ok old =>
          match g old with
          | .ok new =>
              match img.put x y new with
              | .ok img' => k img'
              | .err e => .err e
              | .panic s => .panic s
          | .err e => .err e
          | .panic s => .panic s
      | .err e => .err e
      | .panic s => .panic s) = blendAt g img x y >>= k := by
  unfold blendAt
  cases img.get x y with
  | ok old =>
      dsimp only
      cases g old with
      | ok new => dsimp only; cases img.put x y new <;> rfl
      | err e => rfl
      | panic s => rfl
  | err e => rfl
  | panic s => rfl

theorem foldlM_range'_of_rec {β : Type} {loop : Nat → Nat → β → Res β} {step : β → Nat → Res β}
    (h0 : ∀ i b, loop 0 i b = .ok b)
    (hs : ∀ n i b, loop (n + 1) i b = step b i >>= loop n (i + 1)) :
    ∀ n i b, loop n i b = (List.range' i n).foldlM step b := by
  intro n
  induction n with
  | zero => exact h0
  | succ n ih =>
      intro i b
      rw [hs, List.range'_succ, List.foldlM_cons, funext (ih (i + 1))]

section
variable {F : Type} (ops : FOps F) (m : Profile) {mode : Nat} {op : UInt8}
  {f : RGBA → RGBA → Res RGBA} (hf : ∀ old p, Blend.blend ops m mode old p op = f old p)
include hf

theorem writeRawRow_eq (pixels : Array RGBA) (cw : Nat) (x0 : Int) (y row : Nat) :
    ∀ (n col : Nat) (img : Image),
      Sprite.writeRawRow ops m mode op pixels cw x0 y row n col img =
        (List.range' col n).foldlM (rawCol f pixels cw x0 y row) img := by
  refine foldlM_range'_of_rec (fun _ _ => rfl) (fun n col img => ?_)
  unfold Sprite.writeRawRow rawCol
  simp only [hf]
  split
  · rfl
  · cases pixels[row * cw + col]? with
    | none => rfl
    | some p => exact blendAt_bind ..

theorem writeRawRows_eq (pixels : Array RGBA) (cw : Nat) (x0 y0 : Int) :
    ∀ (n row : Nat) (img : Image),
      Sprite.writeRawRows ops m mode op pixels cw x0 y0 n row img =
        (List.range' row n).foldlM (rawRow f pixels cw x0 y0) img := by
  refine foldlM_range'_of_rec (fun _ _ => rfl) (fun n row img => ?_)
  unfold Sprite.writeRawRows rawRow
  simp only [writeRawRow_eq ops m hf]
  split
  · rfl
  · exact match_bind ..

theorem writeTilePixels_eq (tp : Array RGBA) (tw : Nat) (bx by_ : Int) :
    ∀ (n idx : Nat) (img : Image),
      Sprite.writeTilePixels ops m mode op tp tw bx by_ n idx img =
        (List.range' idx n).foldlM (tilePx f tp tw bx by_) img := by
  refine foldlM_range'_of_rec (fun _ _ => rfl) (fun n idx img => ?_)
  unfold Sprite.writeTilePixels tilePx
  simp only [hf]
  cases tp[idx]? with
  | none => rfl
  | some p =>
      dsimp only
      split
      · exact blendAt_bind ..
      · rfl

theorem writeTiles_eq (t : TilemapData) (pixels : Array RGBA) (tw th : Nat) (cx cy : Int) :
    ∀ (n idx : Nat) (img : Image),
      Sprite.writeTiles ops m mode op t pixels tw th cx cy n idx img =
        (List.range' idx n).foldlM (tileAt f t pixels tw th cx cy) img := by
  refine foldlM_range'_of_rec (fun _ _ => rfl) (fun n idx img => ?_)
  unfold Sprite.writeTiles tileAt
  simp only [writeTilePixels_eq ops m hf]
  cases t.tiles[idx / t.width.toNat * t.width.toNat + idx % t.width.toNat]? with
  | none => rfl
  | some id =>
      dsimp only
      split
      · rfl
      · exact match_bind ..

end

end Ase.Proofs
