import AseProofs.Lemmas.Raster
/-
  What drawing a tilemap cel does to each pixel: one pixel of a tile (`tilePx`), one tile of the
  stored map (`tileAt`), all tiles (`writeTiles`), a tilemap cel (`writeTilemapCel`).
-/
namespace Ase.Proofs
open Ase

/- The rectangle of the stored tile `(tx, ty)` of a map drawn at `(cx, cy)` is
   `InRect (tx * tw + cx) (ty * th + cy) tw th`; `C08.InTile` below names it, the `inTile_…`
   lemmas are stated on the rectangle itself. -/

theorem inTile_coord {c : Int} {w t X : Nat} (hw : 0 < w) :
    (((t * w : Nat) : Int) + c ≤ (X : Int) ∧ (X : Int) < ((t * w : Nat) : Int) + c + (w : Int)) ↔
      (c ≤ (X : Int) ∧ ((X : Int) - c).toNat / w = t) := by
  rw [Nat.div_eq_iff hw]
  generalize t * w = b
  omega

theorem inTile_coord_offset {c : Int} {w t X : Nat} (hc : c ≤ (X : Int))
    (h : ((X : Int) - c).toNat / w = t) :
    ((X : Int) - (((t * w : Nat) : Int) + c)).toNat = ((X : Int) - c).toNat % w := by
  rw [Nat.mod_def, h, Nat.mul_comm]
  generalize t * w = b
  omega

theorem eq_of_divmod_eq {w a b : Nat} (hm : a % w = b % w) (hd : a / w = b / w) : a = b := by
  rw [← Nat.div_add_mod a w, ← Nat.div_add_mod b w, hm, hd]

def tileOf (cx cy : Int) (tw th mw X Y : Nat) : Nat :=
  (((Y : Int) - cy).toNat / th) * mw + ((X : Int) - cx).toNat / tw

/-- pixel `((Y - cy) mod th, (X - cx) mod tw)` of the tile whose id the stored map holds for
    the tile that covers `(X, Y)` -/
def tileSrc (tiles : Array UInt32) (pixels : Array RGBA) (tw th mw : Nat) (cx cy : Int)
    (X Y : Nat) : Option RGBA :=
  match tiles[tileOf cx cy tw th mw X Y]? with
  | none => none
  | some id =>
      pixels[tw * th * id.toNat + (((Y : Int) - cy).toNat % th) * tw + ((X : Int) - cx).toNat % tw]?

theorem inTile_iff {cx cy : Int} {tw th tx ty X Y : Nat} (htw : 0 < tw) (hth : 0 < th) :
    InRect (((tx * tw : Nat) : Int) + cx) (((ty * th : Nat) : Int) + cy) tw th X Y ↔
      (cx ≤ (X : Int) ∧ cy ≤ (Y : Int) ∧ ((X : Int) - cx).toNat / tw = tx ∧
        ((Y : Int) - cy).toNat / th = ty) := by
  unfold InRect
  rw [← and_assoc, inTile_coord htw, inTile_coord hth, and_and_and_comm, and_assoc]

theorem inTile_offsets {cx cy : Int} {tw th tx ty X Y : Nat} (htw : 0 < tw) (hth : 0 < th)
    (h : InRect (((tx * tw : Nat) : Int) + cx) (((ty * th : Nat) : Int) + cy) tw th X Y) :
    ((X : Int) - (((tx * tw : Nat) : Int) + cx)).toNat = ((X : Int) - cx).toNat % tw ∧
    ((Y : Int) - (((ty * th : Nat) : Int) + cy)).toNat = ((Y : Int) - cy).toNat % th :=
  let ⟨h1, h2, h3, h4⟩ := (inTile_iff htw hth).mp h
  ⟨inTile_coord_offset h1 h3, inTile_coord_offset h2 h4⟩

def InMap (cx cy : Int) (tw th mw mh X Y : Nat) : Prop :=
  cx ≤ (X : Int) ∧ cy ≤ (Y : Int) ∧ ((X : Int) - cx).toNat / tw < mw ∧
    ((Y : Int) - cy).toNat / th < mh

instance (cx cy : Int) (tw th mw mh X Y : Nat) : Decidable (InMap cx cy tw th mw mh X Y) := by
  unfold InMap; infer_instance

/-- this and `C08.inMap_iff_exists` carry C08's prefix because the statements of
    Props/C08Pointwise (`C08.tile_unique`, …) are written with them -/
def C08.InTile (cx cy : Int) (tw th tx ty X Y : Nat) : Prop :=
  InRect (((tx * tw : Nat) : Int) + cx) (((ty * th : Nat) : Int) + cy) tw th X Y

theorem C08.inMap_iff_exists {cx cy : Int} {tw th mw mh X Y : Nat} (htw : 0 < tw) (hth : 0 < th) :
    InMap cx cy tw th mw mh X Y ↔
      ∃ tx ty, tx < mw ∧ ty < mh ∧ C08.InTile cx cy tw th tx ty X Y := by
  constructor
  · intro ⟨h1, h2, h3, h4⟩
    exact ⟨_, _, h3, h4, (inTile_iff htw hth).mpr ⟨h1, h2, rfl, rfl⟩⟩
  · intro ⟨tx, ty, h1, h2, h3⟩
    obtain ⟨a, b, c, d⟩ := (inTile_iff htw hth).mp h3
    exact ⟨a, b, c ▸ h1, d ▸ h2⟩

section
variable {f : RGBA → RGBA → Res RGBA} {img img' : Image}

theorem tilePx_painted {tp : Array RGBA} {tw : Nat} {bx by_ : Int} {idx : Nat}
    (h : tilePx f tp tw bx by_ img idx = .ok img') :
    Painted f
      (fun X Y => (X : Int) = bx + (idx % tw : Nat) ∧ (Y : Int) = by_ + (idx / tw : Nat))
      (fun X Y => tp[((Y : Int) - by_).toNat * tw + ((X : Int) - bx).toNat]?) img img' := by
  unfold tilePx at h
  split at h
  · cases h
  · rename_i p hp
    split at h
    · rename_i hon
      simp only [Bool.and_eq_true, decide_eq_true_eq] at hon
      have hx {X : Nat} := @eq_toNat_iff (bx + (idx % tw : Nat)) X hon.1.1.1
      have hy {Y : Nat} := @eq_toNat_iff (by_ + (idx / tw : Nat)) Y hon.1.2
      refine (blendAt_painted h).congr (fun X Y _ _ => by rw [hx, hy]) (fun X Y hR => ?_)
      rw [toNat_sub_of_eq (hx.mp hR.1), toNat_sub_of_eq (hy.mp hR.2), Nat.div_add_mod']
      exact hp
    · rename_i hoff
      simp only [Bool.and_eq_true, decide_eq_true_eq] at hoff
      cases h
      exact Painted.skip (fun X Y _ _ hR => by omega)

theorem tilePxs_painted {tp : Array RGBA} {tw th : Nat} {bx by_ : Int}
    (h : (List.range' 0 (tw * th)).foldlM (tilePx f tp tw bx by_) img = .ok img') :
    Painted f (InRect bx by_ tw th)
      (fun X Y => tp[((Y : Int) - by_).toNat * tw + ((X : Int) - bx).toNat]?) img img' := by
  refine (Painted.range (fun a b X Y ha hb => eq_of_divmod_eq (w := tw)
      (Int.ofNat_inj.mp (Int.add_left_cancel (ha.1.symm.trans hb.1)))
      (Int.ofNat_inj.mp (Int.add_left_cancel (ha.2.symm.trans hb.2))))
    (fun _ _ _ h => tilePx_painted h) (tw * th) 0 _ _ h).congr (fun X Y _ _ => ?_)
    (fun _ _ _ => rfl)
  rw [exists_index_iff fun a b => (X : Int) = bx + (a : Nat) ∧ (Y : Int) = by_ + (b : Nat)]
  unfold InRect
  constructor
  · intro ⟨h1, h2, h3, h4⟩
    obtain ⟨dx, hdx⟩ := exists_offset h1
    obtain ⟨dy, hdy⟩ := exists_offset h3
    exact ⟨dx, dy, by omega, by omega, hdx, hdy⟩
  · intro ⟨a, b, ha, hb, hX, hY⟩
    omega

theorem tileAt_painted {t : TilemapData} {pixels : Array RGBA} {tw th : Nat} {cx cy : Int}
    {idx : Nat} (h : tileAt f t pixels tw th cx cy img idx = .ok img') :
    Painted f
      (InRect (((idx % t.width.toNat * tw : Nat) : Int) + cx)
        (((idx / t.width.toNat * th : Nat) : Int) + cy) tw th)
      (tileSrc t.tiles pixels tw th t.width.toNat cx cy) img img' := by
  unfold tileAt at h
  rw [Nat.div_add_mod'] at h
  split at h
  · cases h
  · rename_i id hid
    split at h
    · cases h
    · rename_i hfit
      refine (tilePxs_painted h).congr (fun _ _ _ _ => Iff.rfl) (fun X Y hR => ?_)
      obtain ⟨htw, hth⟩ := hR.pos
      obtain ⟨e1, e2⟩ := inTile_offsets htw hth hR
      obtain ⟨_, _, a3, a4⟩ := (inTile_iff htw hth).mp hR
      unfold tileSrc tileOf
      have hlt := index_lt (h := th) (Nat.mod_lt ((X : Int) - cx).toNat htw)
        (Nat.mod_lt ((Y : Int) - cy).toNat hth)
      rw [a3, a4, Nat.div_add_mod', hid, e1, e2, Array.getElem?_extract,
        Nat.min_eq_left (Nat.le_of_not_gt hfit), Nat.add_sub_cancel_left, if_pos hlt]
      dsimp only
      rw [Nat.add_assoc]

end

section
variable {F : Type} (ops : FOps F) (m : Profile)

/-- tiles do not overlap: each position is written at most once -/
theorem writeTiles_painted (mode : Nat) (op : UInt8) (t : TilemapData) (pixels : Array RGBA)
    (tw th : Nat) (cx cy : Int) (img img' : Image)
    (h : Sprite.writeTiles ops m mode op t pixels tw th cx cy
          (t.width.toNat * t.height.toNat) 0 img = .ok img') :
    Painted (fun old p => Blend.blend ops m mode old p op)
      (fun X Y => 0 < tw ∧ 0 < th ∧ InMap cx cy tw th t.width.toNat t.height.toNat X Y)
      (tileSrc t.tiles pixels tw th t.width.toNat cx cy) img img' := by
  rw [writeTiles_eq ops m (fun _ _ => rfl)] at h
  refine (Painted.range (fun a b X Y ha hb =>
      let ⟨htw, hth⟩ := ha.pos
      let ⟨_, _, a1, a2⟩ := (inTile_iff htw hth).mp ha
      let ⟨_, _, b1, b2⟩ := (inTile_iff htw hth).mp hb
      eq_of_divmod_eq (a1.symm.trans b1) (a2.symm.trans b2))
    (fun _ _ _ h => tileAt_painted h) _ 0 _ _ h).congr (fun X Y _ _ => ?_) (fun _ _ _ => rfl)
  refine Iff.trans ?_ (exists_index_iff fun a b => C08.InTile cx cy tw th a b X Y).symm
  constructor
  · intro ⟨htw, hth, hm⟩
    exact (C08.inMap_iff_exists htw hth).mp hm
  · intro ⟨a, b, ha, hb, hin⟩
    obtain ⟨htw, hth⟩ := hin.pos
    exact ⟨htw, hth, (C08.inMap_iff_exists htw hth).mpr ⟨a, b, ha, hb, hin⟩⟩

theorem writeTilemapCel_painted (img img' : Image) (d : CelCommon) (t : TilemapData)
    (ts : Tileset Pixels) (pixels : Array RGBA) (mode : Nat) (layerOpacity : UInt8)
    (h : Sprite.writeTilemapCel ops m img d t ts pixels mode layerOpacity = .ok img') :
    Painted
      (fun old p =>
        Blend.blend ops m mode old p (Blend.mulUn8 (Blend.ch layerOpacity) (Blend.ch d.opacity)))
      (fun X Y => 0 < ts.tileW.toNat ∧ 0 < ts.tileH.toNat ∧
        InMap d.x.toInt d.y.toInt ts.tileW.toNat ts.tileH.toNat t.width.toNat t.height.toNat X Y)
      (tileSrc t.tiles pixels ts.tileW.toNat ts.tileH.toNat t.width.toNat d.x.toInt d.y.toInt)
      img img' :=
  writeTiles_painted ops m mode _ t pixels _ _ _ _ img img' h

end
end Ase.Proofs
