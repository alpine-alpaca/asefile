import Ase.Types
/-
  The containers of the model, with the lemmas through which the proofs use them: association
  lists (last insert wins), the cel rows (`FrameCels.get? / insert / modify`; that insert and
  modify keep a row sorted is the last part of the file), `Array.set!` at an index that exists,
  lists related element by element (`C10.All₂`), and generic facts about lists and arrays.
-/
namespace Ase.Proofs
open Ase

theorem assocGet?_cons {α} (k k' : Nat) (v : α) (l : List (Nat × α)) :
    assocGet? k ((k', v) :: l) = if k' = k then some v else assocGet? k l := by
  unfold assocGet?
  by_cases h : k' = k <;> simp [h]

theorem assocGet?_filter_ne {α} (k k' : Nat) (h : k' ≠ k) : ∀ l : List (Nat × α),
    assocGet? k (l.filter (fun p => p.1 != k')) = assocGet? k l
  | [] => rfl
  | (k0, v) :: l => by
      have ih := assocGet?_filter_ne k k' h l
      rw [List.filter_cons]
      by_cases h0 : k0 = k'
      · rw [if_neg (by simpa using h0), ih, assocGet?_cons, if_neg (fun e => h (h0 ▸ e))]
      · rw [if_pos (by simpa using h0), assocGet?_cons, assocGet?_cons, ih]

theorem assocGet?_insert {α} (k k' : Nat) (v : α) (l : List (Nat × α)) :
    assocGet? k (assocInsert k' v l) = if k' = k then some v else assocGet? k l := by
  unfold assocInsert
  rw [assocGet?_cons]
  split
  · rfl
  · exact assocGet?_filter_ne k k' ‹_› l

theorem assocGet?_foldl_insert {α β} (key : β → Nat) (val : β → α) (k : Nat) :
    ∀ (order : List β) (m : List (Nat × α)),
      assocGet? k (order.foldl (fun m p => assocInsert (key p) (val p) m) m) =
        ((order.filter (fun p => key p == k)).getLast?.map val).or (assocGet? k m)
  | [], m => by simp
  | a :: l, m => by
      rw [List.foldl_cons, assocGet?_foldl_insert key val k l, assocGet?_insert, List.filter_cons]
      by_cases hk : key a = k
      · have hb : (key a == k) = true := by simpa using hk
        rw [if_pos hk, if_pos hb, List.getLast?_cons]
        cases (l.filter fun p => key p == k).getLast? <;> rfl
      · have hb : ¬ (key a == k) = true := by simpa using hk
        rw [if_neg hk, if_neg hb]

theorem palette_color_insert (p : Palette) (e : PalEntry) (k : Nat) :
    (p.insert e).color k = if e.id = k then some e else p.color k :=
  assocGet?_insert k e.id e p.entries

namespace FrameCels
variable {P : Type}

theorem get?_cons (k k' : Nat) (c : RawCel P) (t : FrameCels P) :
    FrameCels.get? k ((k', c) :: t) = if k' = k then some c else FrameCels.get? k t :=
  assocGet?_cons k k' c t

theorem get?_insert_ne (k k' : Nat) (c : RawCel P) (hne : k ≠ k') : ∀ row : FrameCels P,
    FrameCels.get? k (FrameCels.insert k' c row) = FrameCels.get? k row
  | [] => by simp [FrameCels.insert, get?_cons, Ne.symm hne]
  | (k0, c0) :: t => by
      unfold FrameCels.insert
      split
      · rw [get?_cons, if_neg (Ne.symm hne)]
      · rw [get?_cons, get?_cons, get?_insert_ne k k' c hne t]

theorem get?_insert_self (k : Nat) (c : RawCel P) : ∀ row : FrameCels P,
    FrameCels.get? k row = none → FrameCels.get? k (FrameCels.insert k c row) = some c
  | [], _ => by simp [FrameCels.insert, get?_cons]
  | (k0, c0) :: t, h => by
      rw [get?_cons] at h
      unfold FrameCels.insert
      split at h
      · cases h
      · split
        · rw [get?_cons, if_pos rfl]
        · rw [get?_cons, if_neg ‹_›, get?_insert_self k c t h]

theorem get?_insert (k : Nat) (c : RawCel P) (row : FrameCels P)
    (h : FrameCels.get? k row = none) (k' : Nat) :
    FrameCels.get? k' (FrameCels.insert k c row) =
      if k' = k then some c else FrameCels.get? k' row := by
  split
  · subst k'; exact get?_insert_self k c row h
  · exact get?_insert_ne k' k c ‹_› row

theorem get?_modify (k l : Nat) (g : RawCel P → RawCel P) : ∀ row : FrameCels P,
    FrameCels.get? l (FrameCels.modify k g row) =
      if l = k then (FrameCels.get? l row).map g else FrameCels.get? l row
  | [] => by simp [FrameCels.modify, FrameCels.get?]
  | (k0, c0) :: t => by
      unfold FrameCels.modify
      by_cases hk : k0 = k
      · subst hk
        rw [if_pos (by simp), get?_cons, get?_cons]
        by_cases hl : k0 = l
        · subst hl; simp
        · simp [hl, Ne.symm hl]
      · rw [if_neg (by simpa using hk), get?_cons, get?_cons, get?_modify k l g t]
        by_cases hl : k0 = l
        · have : ¬ l = k := fun e => hk (hl.trans e)
          simp [hl, this]
        · simp [hl]

theorem insert_comm (k1 k2 : Nat) (c1 c2 : RawCel P) (hne : k1 ≠ k2) : ∀ (l : FrameCels P),
    FrameCels.insert k1 c1 (FrameCels.insert k2 c2 l) =
      FrameCels.insert k2 c2 (FrameCels.insert k1 c1 l) := by
  -- the one fact about the keys the eight cases need
  have h21 : k2 < k1 ↔ ¬ k1 < k2 := by omega
  intro l
  induction l with
  | nil => by_cases h : k1 < k2 <;> simp [FrameCels.insert, h, h21]
  | cons hd tl ih =>
      obtain ⟨k', c'⟩ := hd
      by_cases h1 : k1 < k' <;> by_cases h2 : k2 < k' <;> by_cases h : k1 < k2 <;>
        simp [FrameCels.insert, h1, h2, h, h21, ih] <;> omega

end FrameCels

theorem lt_size_of_getElem? {α} {arr : Array α} {i : Nat} {a : α} (h : arr[i]? = some a) :
    i < arr.size :=
  (Array.getElem?_eq_some_iff.mp h).1

theorem getElem?_set! {α} {arr : Array α} {i : Nat} {a : α} (h : arr[i]? = some a) (b : α)
    (j : Nat) : (arr.set! i b)[j]? = if i = j then some b else arr[j]? := by
  rw [Array.set!_eq_setIfInBounds, Array.getElem?_setIfInBounds, if_pos (lt_size_of_getElem? h)]

theorem mem_set! {α} {arr : Array α} {i : Nat} {b z : α} (h : z ∈ arr.set! i b) :
    z = b ∨ z ∈ arr :=
  (Array.mem_or_eq_of_mem_setIfInBounds (Array.set!_eq_setIfInBounds ▸ h)).symm

end Ase.Proofs

-- `C05.mem_*` carry the namespace of the property that first needed them: C05 states its
-- invariants by membership
namespace Ase.Proofs.C05
open Ase

theorem mem_of_assocGet? {α} {k : Nat} : ∀ {l : List (Nat × α)} {v : α},
    assocGet? k l = some v → (k, v) ∈ l
  | (k0, v0) :: l, v, h => by
      rw [assocGet?_cons] at h
      split at h
      · cases h; subst k0; exact List.mem_cons_self
      · exact List.mem_cons_of_mem _ (mem_of_assocGet? h)

theorem mem_assocInsert {α} {k : Nat} {v : α} {l : List (Nat × α)} {p : Nat × α}
    (h : p ∈ assocInsert k v l) : p = (k, v) ∨ p ∈ l := by
  rcases List.mem_cons.mp h with h | h
  · exact .inl h
  · exact .inr (List.mem_filter.mp h).1

theorem mem_frameInsert {P} {k : Nat} {c : RawCel P} : ∀ {row : FrameCels P} {p : Nat × RawCel P},
    p ∈ FrameCels.insert k c row → p = (k, c) ∨ p ∈ row
  | [], p, h => .inl (List.mem_singleton.mp h)
  | (k0, c0) :: t, p, h => by
      unfold FrameCels.insert at h
      split at h
      · exact List.mem_cons.mp h
      · rcases List.mem_cons.mp h with h | h
        · exact .inr (h ▸ List.mem_cons_self)
        · exact (mem_frameInsert h).imp_right (List.mem_cons_of_mem _)

theorem mem_frameModify {P} {k : Nat} {f : RawCel P → RawCel P} :
    ∀ {row : FrameCels P} {p : Nat × RawCel P},
    p ∈ FrameCels.modify k f row → p ∈ row ∨ ∃ c0, (p.1, c0) ∈ row ∧ p.2 = f c0
  | [], p, h => nomatch h
  | (k0, c0) :: t, p, h => by
      unfold FrameCels.modify at h
      split at h
      · rcases List.mem_cons.mp h with rfl | h
        · exact .inr ⟨c0, List.mem_cons_self, rfl⟩
        · exact .inl (List.mem_cons_of_mem _ h)
      · rcases List.mem_cons.mp h with h | h
        · exact .inl (h ▸ List.mem_cons_self)
        · rcases mem_frameModify h with h | ⟨c1, h1, h2⟩
          · exact .inl (List.mem_cons_of_mem _ h)
          · exact .inr ⟨c1, List.mem_cons_of_mem _ h1, h2⟩

end Ase.Proofs.C05

-- `C10.All₂` is `List.Forall₂` under the name of the property that first needed it (C10 relates
-- chunk lists to event lists with it)
namespace Ase.Proofs.C10

inductive All₂ {α β : Type} (R : α → β → Prop) : List α → List β → Prop where
  | nil : All₂ R [] []
  | cons {a : α} {b : β} {as : List α} {bs : List β} :
      R a b → All₂ R as bs → All₂ R (a :: as) (b :: bs)

variable {α β : Type} {R : α → β → Prop} {l : List α} {l' : List β}

theorem All₂.length_eq (h : All₂ R l l') : l.length = l'.length := by
  induction h with
  | nil => rfl
  | cons _ _ ih => simp [ih]

theorem All₂.imp {R' : α → β → Prop} (h : All₂ R l l') (hR : ∀ a b, R a b → R' a b) :
    All₂ R' l l' := by
  induction h with
  | nil => exact .nil
  | cons hr _ ih => exact .cons (hR _ _ hr) ih

theorem All₂.mem_right (h : All₂ R l l') {b : β} (hb : b ∈ l') : ∃ a ∈ l, R a b := by
  induction h with
  | nil => cases hb
  | cons hr _ ih =>
      rcases List.mem_cons.mp hb with rfl | hb'
      · exact ⟨_, List.mem_cons_self, hr⟩
      · obtain ⟨a, ha, hab⟩ := ih hb'
        exact ⟨a, List.mem_cons_of_mem _ ha, hab⟩

theorem All₂.getElem?_rel (h : All₂ R l l') : ∀ i : Nat,
    (l[i]? = none ∧ l'[i]? = none) ∨ ∃ a b, l[i]? = some a ∧ l'[i]? = some b ∧ R a b := by
  induction h with
  | nil => exact fun _ => .inl ⟨rfl, rfl⟩
  | cons hr _ ih =>
      intro i
      cases i with
      | zero => exact .inr ⟨_, _, rfl, rfl, hr⟩
      | succ i => simpa using ih i

theorem All₂.assocGet? {α β : Type} {R : Nat → α → β → Prop} {l : List (Nat × α)}
    {l' : List (Nat × β)} (h : All₂ (fun p p' => p'.1 = p.1 ∧ R p.1 p.2 p'.2) l l') (k : Nat) :
    (assocGet? k l = none ∧ assocGet? k l' = none) ∨
      ∃ a b, assocGet? k l = some a ∧ assocGet? k l' = some b ∧ R k a b := by
  induction h with
  | nil => exact .inl ⟨rfl, rfl⟩
  | @cons p p' _ _ hr _ ih =>
      obtain ⟨ka, a⟩ := p
      obtain ⟨kb, b⟩ := p'
      obtain ⟨rfl, hR⟩ := hr
      rw [assocGet?_cons, assocGet?_cons]
      split
      · subst k; exact .inr ⟨a, b, rfl, rfl, hR⟩
      · exact ih

end Ase.Proofs.C10

/- Generic facts about lists and arrays, kept out of the topical files (`filterMap`, a write into
   an array, pairwise distinct keys, array slices). -/
namespace Ase.Proofs

theorem length_filterMap_of_isSome {α β} (g : α → Option β) : ∀ l : List α,
    (∀ a ∈ l, (g a).isSome) → (l.filterMap g).length = l.length
  | [], _ => rfl
  | a :: t, h => by
      obtain ⟨ha, ht⟩ := List.forall_mem_cons.mp h
      obtain ⟨b, hb⟩ := Option.isSome_iff_exists.mp ha
      rw [List.filterMap_cons_some hb, List.length_cons, List.length_cons,
        length_filterMap_of_isSome g t ht]


theorem map_set!_of_eq {α} (g f : α → α) (hg : ∀ a, g (f a) = g a) {arr : Array α} {i : Nat}
    {a : α} (ha : arr[i]? = some a) : (arr.set! i (f a)).map g = arr.map g := by
  obtain ⟨hi, rfl⟩ := Array.getElem?_eq_some_iff.mp ha
  -- entry by entry: at `i` both sides are `g a` (`hg`), elsewhere the write is not seen
  apply Array.ext_getElem?
  intro j
  by_cases hij : i = j
  · subst hij
    simp [hi, hg]
  · simp [hij]

theorem foldl_append_filterMap {α β} (g : α → Option β) (its : List α) : ∀ (b : List β),
    its.foldl (fun b it => b ++ (g it).toList) b = b ++ its.filterMap g := by
  induction its with
  | nil =>
      intro b
      exact (List.append_nil b).symm
  | cons it t ih =>
      intro b
      cases h : g it <;> simp [ih, h]

theorem foldl_or_getLast {α β} (g : α → Option β) (its : List α) : ∀ (t : Option β),
    its.foldl (fun t it => (g it).or t) t = ((its.filterMap g).getLast?).or t := by
  induction its with
  | nil => intro t; rfl
  | cons it rest ih =>
      intro t
      rw [List.foldl_cons, ih, List.filterMap_cons]
      cases g it with
      | none => rfl
      | some b =>
          rw [List.getLast?_cons]
          cases (rest.filterMap g).getLast? <;> rfl

theorem map_filterMap_eq_flatMap {α β γ : Type} (f : α → Option β) (g : β → γ) (l : List α) :
    (l.filterMap f).map g = l.flatMap fun a => (f a).toList.map g := by
  induction l with
  | nil => rfl
  | cons a t ih =>
      rw [List.filterMap_cons, List.flatMap_cons, ← ih]
      cases f a <;> rfl

theorem map_eq_of_zip {α β} (g : α → β) (l l' : List α) (hlen : l.length = l'.length)
    (h : ∀ x ∈ l.zip l', g x.1 = g x.2) : l.map g = l'.map g :=
  calc l.map g = ((l.zip l').map Prod.fst).map g := by rw [List.map_fst_zip (by omega)]
    _ = ((l.zip l').map Prod.snd).map g := by
        rw [List.map_map, List.map_map]
        exact List.map_congr_left h
    _ = l'.map g := by rw [List.map_snd_zip (by omega)]

theorem find?_key_of_mem {α} (key : α → Nat) : ∀ {l : List α}, (l.map key).Nodup →
    ∀ {a : α}, a ∈ l → l.find? (fun x => key x == key a) = some a
  | b :: t, hnd, a, ha => by
      rw [List.map_cons, List.nodup_cons] at hnd
      rcases List.mem_cons.mp ha with rfl | hm
      · exact List.find?_cons_of_pos BEq.rfl
      · have hb : (key b == key a) = false :=
          beq_eq_false_iff_ne.mpr fun e => hnd.1 (e ▸ List.mem_map_of_mem hm)
        rw [List.find?_cons, hb]
        exact find?_key_of_mem key hnd.2 hm

theorem eq_of_key_eq {β} (xs : List (Nat × β)) (hp : xs.Pairwise (fun a b => a.1 ≠ b.1)) :
    ∀ x ∈ xs, ∀ y ∈ xs, x.1 = y.1 → x = y := by
  intro x hx y hy hxy
  have hnd : (xs.map (·.1)).Nodup := List.pairwise_map.mpr hp
  have h := find?_key_of_mem (·.1) hnd hx
  rw [hxy, find?_key_of_mem (·.1) hnd hy] at h
  exact (Option.some.inj h).symm

theorem range_succ_reverse (n : Nat) :
    (List.range (n + 1)).reverse = n :: (List.range n).reverse := by
  simp [List.range_succ]

/-- the search downwards from `i`: the greatest index below `i` that satisfies `q` (the parent of a
    layer in C09, the context-setting event before a record in C10) -/
theorem find_down_succ (q : Nat → Bool) (i : Nat) :
    (List.range (i + 1)).reverse.find? q =
      if q i then some i else (List.range i).reverse.find? q := by
  rw [range_succ_reverse, List.find?_cons]
  cases q i <;> rfl

theorem find_down_iff {q : Nat → Bool} : ∀ {i p : Nat}, (List.range i).reverse.find? q = some p ↔
    p < i ∧ q p = true ∧ ∀ j, p < j → j < i → q j = false
  | 0, p => ⟨nofun, fun h => absurd h.1 (Nat.not_lt_zero p)⟩
  | i + 1, p => by
      rw [find_down_succ]
      split
      · rename_i hq
        constructor
        · intro h
          cases h
          exact ⟨Nat.lt_succ_self _, hq, fun j h1 h2 => absurd h1 (by omega)⟩
        · intro ⟨h1, _, h3⟩
          -- `i` satisfies `q`, so it is not above `p`
          by_cases hp : p = i
          · rw [hp]
          · exact absurd hq (by rw [h3 i (by omega) (Nat.lt_succ_self _)]; nofun)
      · rename_i hq
        rw [find_down_iff]
        constructor
        · intro ⟨h1, h2, h3⟩
          refine ⟨Nat.lt_succ_of_lt h1, h2, fun j hj hji => ?_⟩
          rcases Nat.lt_succ_iff_lt_or_eq.mp hji with hlt | rfl
          · exact h3 j hj hlt
          · exact Bool.eq_false_iff.mpr hq
        · intro ⟨h1, h2, h3⟩
          have hp : p ≠ i := fun e => hq (e ▸ h2)
          exact ⟨by omega, h2, fun j hj hji => h3 j hj (Nat.lt_succ_of_lt hji)⟩

theorem size_extract_of_le {α} (px : Array α) {a b : Nat} (hb : b ≤ px.size) :
    (px.extract a b).size = b - a := by
  rw [Array.size_extract, Nat.min_eq_left hb]

theorem getElem?_extract_lt {α} (px : Array α) {a b i : Nat} (hb : b ≤ px.size)
    (hi : a + i < b) : (px.extract a b)[i]? = px[a + i]? := by
  rw [Array.getElem?_extract, if_pos (by omega)]

end Ase.Proofs

/- Sorted cel rows: `FrameCels.insert` at an absent key and `FrameCels.modify` keep the keys
   strictly increasing.  The namespace is that of `Lemmas/RunCels.lean`, which uses them. -/
namespace Ase.Proofs.More
open Ase

theorem modify_keys {P} (k : Nat) (g : RawCel P → RawCel P) : ∀ row : FrameCels P,
    (FrameCels.modify k g row).map (·.1) = row.map (·.1)
  | [] => rfl
  | (k0, c0) :: tl => by
      simp only [FrameCels.modify]
      split
      · rfl
      · simp only [List.map_cons, modify_keys k g tl]

def RowSorted {P} (row : FrameCels P) : Prop := row.Pairwise (fun a b => a.1 < b.1)

theorem insert_sorted {P} (k : Nat) (c : RawCel P) : ∀ row : FrameCels P,
    RowSorted row → FrameCels.get? k row = none → RowSorted (FrameCels.insert k c row) := by
  intro row
  induction row with
  | nil =>
      intro _ _
      exact List.pairwise_singleton _ _
  | cons hd tl ih =>
      obtain ⟨k0, c0⟩ := hd
      intro hs hg
      have hs' := List.pairwise_cons.mp hs
      simp only [FrameCels.insert]
      split
      · rename_i hlt
        refine List.pairwise_cons.mpr ⟨?_, hs⟩
        intro p hp
        rcases List.mem_cons.mp hp with h | h
        · subst h
          exact hlt
        · exact Nat.lt_trans hlt (hs'.1 p h)
      · rename_i hnlt
        rw [FrameCels.get?_cons] at hg
        split at hg
        · cases hg
        · next hne =>
          refine List.pairwise_cons.mpr ⟨?_, ih hs'.2 hg⟩
          intro p hp
          rcases C05.mem_frameInsert hp with h | h
          · subst h
            -- `k` is not below `k0` and is not `k0`
            exact Nat.lt_of_le_of_ne (Nat.le_of_not_lt hnlt) hne
          · exact hs'.1 p h

theorem modify_sorted {P} (k : Nat) (g : RawCel P → RawCel P) (row : FrameCels P)
    (h : RowSorted row) : RowSorted (FrameCels.modify k g row) := by
  have hk := modify_keys k g row
  unfold RowSorted at h ⊢
  rw [← List.pairwise_map (f := fun p : Nat × RawCel P => p.1) (R := fun a b => a < b)] at h ⊢
  rw [hk]
  exact h

end Ase.Proofs.More
