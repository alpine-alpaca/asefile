import AseProofs.Lemmas.ValidParse
/-
  What the validation stage (`validate`) does to the tables it does not merely copy: the cel
  rows and the tilesets.  `validate_x` is about the field `x` of the sprite `validate` returns;
  `validateX_…` (ValidParse.lean) is about the model function `validateX`.
-/
namespace Ase.Proofs.More
open Ase Ase.Proofs Ase.Proofs.C05 Ase.Proofs.C10

theorem validate_rows {h : Header} {fmt : PixelFormat} {pi : ParseInfo} {s : Sprite}
    (hv : validate h fmt pi = .ok s) :
    All₂ (RowRel pi.layers s.tilesets pi.palette fmt h.numFrames.toNat pi.cels)
      pi.cels.toList s.cels.toList := by
  obtain ⟨_, _, rows, _, _, _, hrows, rfl⟩ := validate_eq_ok hv
  exact validateRows_rel hrows

theorem rowRel_keys {layers tilesets pal fmt numFrames cels} {row : FrameCels RawPixels}
    {row' : FrameCels Pixels} (h : RowRel layers tilesets pal fmt numFrames cels row row') :
    row'.map (·.1) = row.map (·.1) := by
  induction h with
  | nil => rfl
  | cons hr _ ih => simp only [List.map_cons, ih, hr.1]

/-- the content of a cel without its pixel buffer -/
inductive CelShape where
  | raw (w h : UInt16)
  | linked (frame : UInt16)
  | tilemap (t : TilemapData)

def celShape {P : Type} : CelContent P → CelShape
  | .raw w h _ => .raw w h
  | .linked f => .linked f
  | .tilemap t => .tilemap t

def celPixels? {P : Type} : CelContent P → Option P
  | .raw _ _ px => some px
  | _ => none

/-- `RawCel::validate` keeps position, opacity, layer index, user data and the shape of the
    content; a raw cel's pixels are validated with the background flag of its layer -/
theorem validateCel_keeps {layers : Array LayerData} {tilesets : List (Nat × Tileset Pixels)}
    {pal : Option Palette} {fmt : PixelFormat} {numFrames : Nat}
    {cels : Array (FrameCels RawPixels)} {k : Nat} {c : RawCel RawPixels} {c' : RawCel Pixels}
    (h : validateCel layers tilesets pal fmt numFrames cels k c = .ok c') :
    c'.data = c.data ∧ c'.userData = c.userData ∧ celShape c'.content = celShape c.content ∧
    (∀ px, celPixels? c.content = some px → ∃ ld px', layers[k]? = some ld ∧
      validatePixels pal fmt ld.isBackground px = .ok px' ∧ celPixels? c'.content = some px') := by
  obtain ⟨ld, hld, hc⟩ := (validateCel_spec _ _).of_ok h
  cases hc with
  | raw hpx => exact ⟨rfl, rfl, rfl, fun _ h0 => by cases h0; exact ⟨ld, _, hld, hpx, rfl⟩⟩
  | linked => exact ⟨rfl, rfl, rfl, nofun⟩
  | tilemap => exact ⟨rfl, rfl, rfl, nofun⟩

theorem validate_cel {h : Header} {fmt : PixelFormat} {pi : ParseInfo} {s : Sprite}
    (hv : validate h fmt pi = .ok s) (f l : Nat) :
    ((pi.cels[f]?).bind (FrameCels.get? l) = none ∧
      (s.cels[f]?).bind (FrameCels.get? l) = none) ∨
    ∃ c c', (pi.cels[f]?).bind (FrameCels.get? l) = some c ∧
      (s.cels[f]?).bind (FrameCels.get? l) = some c' ∧ l < pi.layers.size ∧
      validateCel pi.layers s.tilesets pi.palette fmt h.numFrames.toNat pi.cels l c = .ok c' := by
  rcases (validate_rows hv).getElem?_rel f with ⟨h1, h2⟩ | ⟨row, row', h1, h2, hrr⟩ <;>
    rw [Array.getElem?_toList] at h1 h2 <;> rw [h1, h2]
  · exact .inl ⟨rfl, rfl⟩
  · exact All₂.assocGet? (R := fun k c c' => k < pi.layers.size ∧
      validateCel pi.layers s.tilesets pi.palette fmt h.numFrames.toNat pi.cels k c = .ok c') hrr l

theorem validate_cels_size {h : Header} {fmt : PixelFormat} {pi : ParseInfo} {s : Sprite}
    (hv : validate h fmt pi = .ok s) : s.cels.size = pi.cels.size := by
  simpa only [Array.length_toList] using (validate_rows hv).length_eq.symm

theorem validate_row_keys {h : Header} {fmt : PixelFormat} {pi : ParseInfo} {s : Sprite}
    (hv : validate h fmt pi = .ok s) (f : Nat) :
    (s.cels[f]?).map (·.map (·.1)) = (pi.cels[f]?).map (·.map (·.1)) := by
  rcases (validate_rows hv).getElem?_rel f with ⟨h1, h2⟩ | ⟨row, row', h1, h2, hrr⟩ <;>
    rw [Array.getElem?_toList] at h1 h2 <;> rw [h1, h2]
  · rfl
  · exact congrArg some (rowRel_keys hrr)

theorem validate_tileset {h : Header} {fmt : PixelFormat} {pi : ParseInfo} {s : Sprite}
    (hv : validate h fmt pi = .ok s) (id : Nat) :
    (assocGet? id pi.tilesets = none ∧ assocGet? id s.tilesets = none) ∨
    ∃ t t', assocGet? id pi.tilesets = some t ∧ assocGet? id s.tilesets = some t' ∧
      TilesetRel pi.palette fmt t t' := by
  obtain ⟨_, _, _, _, hts, _, _, rfl⟩ := validate_eq_ok hv
  exact All₂.assocGet? (R := fun _ => TilesetRel pi.palette fmt)
    ((rsat_validateTilesets _ _ _).of_ok hts) id

end Ase.Proofs.More
