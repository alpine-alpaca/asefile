import AseProofs.Lemmas.RenderLoops
/-
  What drawing a raw cel does to each pixel: one column step (`rawCol`), one row (`rawRow`),
  all rows (`writeRawRows`), a raw cel (`writeRawCel`).
-/
namespace Ase.Proofs
open Ase

def InRect (x0 y0 : Int) (cw ch : Nat) (X Y : Nat) : Prop :=
  x0 ≤ (X : Int) ∧ (X : Int) < x0 + (cw : Int) ∧ y0 ≤ (Y : Int) ∧ (Y : Int) < y0 + (ch : Int)

instance (x0 y0 : Int) (cw ch X Y : Nat) : Decidable (InRect x0 y0 cw ch X Y) := by
  unfold InRect; infer_instance

theorem InRect.pos {x0 y0 : Int} {cw ch X Y : Nat} (h : InRect x0 y0 cw ch X Y) :
    0 < cw ∧ 0 < ch := by
  unfold InRect at h
  omega

/- The loops compute a canvas coordinate as `x0 + col` in `Int`; the specifications name the
   source index `((X : Int) - x0).toNat`. -/

theorem toNat_sub_of_eq {x0 : Int} {X k : Nat} (h : (X : Int) = x0 + k) :
    ((X : Int) - x0).toNat = k := by omega

theorem exists_offset {x0 : Int} {X : Nat} (h : x0 ≤ (X : Int)) : ∃ k : Nat, (X : Int) = x0 + k :=
  ⟨((X : Int) - x0).toNat, by omega⟩

theorem eq_toNat_iff {a : Int} {X : Nat} (h : 0 ≤ a) : X = a.toNat ↔ (X : Int) = a := by omega

section
variable {f : RGBA → RGBA → Res RGBA} {img img' : Image}

theorem rawCol_painted {pixels : Array RGBA} {cw : Nat} {x0 : Int} {y row col : Nat}
    (h : rawCol f pixels cw x0 y row img col = .ok img') :
    Painted f (fun X Y => (X : Int) = x0 + col ∧ Y = y)
      (fun X _ => pixels[row * cw + ((X : Int) - x0).toNat]?) img img' := by
  unfold rawCol at h
  split at h
  · rename_i hoff
    simp only [Bool.or_eq_true, decide_eq_true_eq] at hoff
    cases h
    exact Painted.skip (fun X Y hX _ hR => by omega)
  · rename_i hon
    simp only [Bool.or_eq_true, decide_eq_true_eq, not_or, Int.not_lt] at hon
    split at h
    · cases h
    · rename_i p hp
      refine (blendAt_painted h).congr (fun X Y _ _ => by rw [eq_toNat_iff hon.1])
        (fun X Y hR => ?_)
      rw [toNat_sub_of_eq ((eq_toNat_iff hon.1).mp hR.1)]
      exact hp

theorem rawRow_painted {pixels : Array RGBA} {cw : Nat} {x0 y0 : Int} {row : Nat}
    (h : rawRow f pixels cw x0 y0 img row = .ok img') :
    Painted f
      (fun X Y => (x0 ≤ (X : Int) ∧ (X : Int) < x0 + cw) ∧ (Y : Int) = y0 + row)
      (fun X Y => pixels[((Y : Int) - y0).toNat * cw + ((X : Int) - x0).toNat]?) img img' := by
  unfold rawRow at h
  split at h
  · rename_i hoff
    simp only [Bool.or_eq_true, decide_eq_true_eq] at hoff
    cases h
    exact Painted.skip (fun X Y _ hY hR => by omega)
  · rename_i hon
    simp only [Bool.or_eq_true, decide_eq_true_eq, not_or, Int.not_lt] at hon
    refine (Painted.range (fun a b X Y ha hb =>
        Int.ofNat_inj.mp (Int.add_left_cancel (ha.1.symm.trans hb.1)))
      (fun _ _ _ h => rawCol_painted h) cw 0 _ _ h).congr (fun X Y _ _ => ?_)
      (fun X Y ⟨_, _, _, _, hY⟩ => ?_)
    · rw [← eq_toNat_iff hon.1]
      constructor
      · intro ⟨⟨h1, h2⟩, h3⟩
        obtain ⟨k, hk⟩ := exists_offset h1
        exact ⟨k, Nat.zero_le _, by omega, hk, h3⟩
      · intro ⟨k, _, h2, hk, h3⟩
        exact ⟨by omega, h3⟩
    · rw [toNat_sub_of_eq ((eq_toNat_iff hon.1).mp hY)]

end

section
variable {F : Type} (ops : FOps F) (m : Profile)

/-- the raw-cel case of C02, one cel: the row loop blends each position of the rectangle that is
    on the image once, with the stored pixel there, and no other; offsets over all integers -/
theorem writeRawRows_painted (mode : Nat) (op : UInt8) (pixels : Array RGBA) (cw ch : Nat)
    (x0 y0 : Int) (img img' : Image)
    (h : Sprite.writeRawRows ops m mode op pixels cw x0 y0 ch 0 img = .ok img') :
    Painted (fun old p => Blend.blend ops m mode old p op) (InRect x0 y0 cw ch)
      (fun X Y => pixels[((Y : Int) - y0).toNat * cw + ((X : Int) - x0).toNat]?) img img' := by
  rw [writeRawRows_eq ops m (fun _ _ => rfl)] at h
  refine (Painted.range (fun a b X Y ha hb =>
      Int.ofNat_inj.mp (Int.add_left_cancel (ha.2.symm.trans hb.2)))
    (fun _ _ _ h => rawRow_painted h) ch 0 _ _ h).congr (fun X Y _ _ => ?_) (fun _ _ _ => rfl)
  unfold InRect
  constructor
  · intro ⟨h1, h2, h3, h4⟩
    obtain ⟨k, hk⟩ := exists_offset h3
    exact ⟨k, Nat.zero_le _, by omega, ⟨h1, h2⟩, hk⟩
  · intro ⟨k, _, h2, ⟨h3, h4⟩, hk⟩
    omega

/-- `writeRawRows_painted` with the rectangle of the cel header and the rounded product of layer
    and cel opacity -/
theorem writeRawCel_painted (img img' : Image) (d : CelCommon) (w h : UInt16)
    (pixels : Array RGBA) (mode : Nat) (layerOpacity : UInt8)
    (hw : Sprite.writeRawCel ops m img d w h pixels mode layerOpacity = .ok img') :
    Painted
      (fun old p =>
        Blend.blend ops m mode old p (Blend.mulUn8 (Blend.ch layerOpacity) (Blend.ch d.opacity)))
      (InRect d.x.toInt d.y.toInt w.toNat h.toNat)
      (fun X Y => pixels[((Y : Int) - d.y.toInt).toNat * w.toNat + ((X : Int) - d.x.toInt).toNat]?)
      img img' :=
  writeRawRows_painted ops m mode _ pixels w.toNat h.toNat d.x.toInt d.y.toInt img img' hw

theorem writeRawCel_off_canvas (img img' : Image) (d : CelCommon) (w h : UInt16)
    (pixels : Array RGBA) (mode : Nat) (layerOpacity : UInt8)
    (hw : Sprite.writeRawCel ops m img d w h pixels mode layerOpacity = .ok img')
    (hsz : img.px.size = img.w * img.h)
    (hoff : ∀ X Y, X < img.w → Y < img.h → ¬ InRect d.x.toInt d.y.toInt w.toNat h.toNat X Y) :
    img' = img :=
  (writeRawCel_painted ops m img img' d w h pixels mode layerOpacity hw).eq_of_disjoint hsz hoff

end
end Ase.Proofs
