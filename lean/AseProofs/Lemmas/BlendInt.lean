import Ase.Blend
import Mathlib.Tactic.Linarith
import Mathlib.Tactic.Ring
/-
  The integer side of the blend functions, shared by C03 and C17: `mul_un8`, truncated division
  and the casts between bytes and `i32`, with the ranges that keep `normal` and `from_rgba_i32`
  inside a byte.
-/
namespace Ase.Proofs
open Ase Ase.Blend

theorem min_eq_ite_lt (a b : Int) : min a b = if a < b then a else b := by
  split <;> omega

theorem max_eq_ite_gt (a b : Int) : max a b = if a > b then a else b := by
  split <;> omega


theorem mulUn8I_eq (a b : Int) : mulUn8I a b = ((a * b + 128) / 256 + (a * b + 128)) / 256 := by
  simp only [mulUn8I, Int.shiftRight_eq_div_pow]
  rfl

/-- `mul_un8` rounds `a * b / 255`: it is monotone in the product and exact at the multiples
    `255 * k` of moderate size (the two side conditions) -/
theorem mulUn8I_between {a b lo hi : Int} (h1 : 255 * lo ≤ a * b) (h2 : a * b ≤ 255 * hi)
    (hlo : lo ≤ 255) (hhi : -255 ≤ hi) : lo ≤ mulUn8I a b ∧ mulUn8I a b ≤ hi := by
  rw [mulUn8I_eq]
  generalize a * b = p at *
  omega

theorem mulUn8I_bounds_nonneg (d o : Int) (hd0 : 0 ≤ d) (ho0 : 0 ≤ o) (ho : o ≤ 255) :
    0 ≤ mulUn8I d o ∧ mulUn8I d o ≤ d :=
  mulUn8I_between (by linarith [Int.mul_nonneg hd0 ho0])
    (by linarith [Int.mul_le_mul_of_nonneg_left ho hd0]) (by omega) (by omega)

theorem mulUn8I_bounds_neg (d o : Int) (hd0 : d ≤ 0) (ho0 : 0 ≤ o) (ho : o ≤ 255) :
    d ≤ mulUn8I d o ∧ mulUn8I d o ≤ 0 :=
  mulUn8I_between (by linarith [Int.mul_le_mul_of_nonpos_left hd0 ho])
    (by linarith [Int.mul_nonpos_of_nonpos_of_nonneg hd0 ho0]) (by omega) (by omega)

theorem mulUn8I_zero_right (a : Int) : mulUn8I a 0 = 0 := by
  rw [mulUn8I_eq, Int.mul_zero]
  rfl

theorem mulUn8I_zero_left (b : Int) : mulUn8I 0 b = 0 := by
  rw [mulUn8I_eq, Int.zero_mul]
  rfl

theorem mulUn8I_255 (a : Int) (ha0 : 0 ≤ a) (ha : a ≤ 255) : mulUn8I a 255 = a := by
  rw [mulUn8I_eq]
  omega

theorem tdiv_scaled_nonneg (d n D : Int) (hD : 0 < D) (hn0 : 0 ≤ n) (hnD : n ≤ D)
    (hd : 0 ≤ d) : 0 ≤ Int.tdiv (d * n) D ∧ Int.tdiv (d * n) D ≤ d := by
  have hnum : 0 ≤ d * n := Int.mul_nonneg hd hn0
  rw [Int.tdiv_eq_ediv_of_nonneg hnum]
  constructor
  · exact Int.ediv_nonneg hnum (le_of_lt hD)
  · apply Int.ediv_le_of_le_mul hD
    exact Int.mul_le_mul_of_nonneg_left hnD hd

theorem tdiv_scaled_nonpos (d n D : Int) (hD : 0 < D) (hn0 : 0 ≤ n) (hnD : n ≤ D)
    (hd : d ≤ 0) : d ≤ Int.tdiv (d * n) D ∧ Int.tdiv (d * n) D ≤ 0 := by
  have h := tdiv_scaled_nonneg (-d) n D hD hn0 hnD (by omega)
  have e : d * n = -((-d) * n) := by ring
  rw [e, Int.neg_tdiv]
  omega

theorem ch_nonneg (x : UInt8) : 0 ≤ ch x := Int.natCast_nonneg _

theorem ch_le (x : UInt8) : ch x ≤ 255 := by
  have := x.toNat_lt
  unfold ch
  omega

theorem ch_range (x : UInt8) : 0 ≤ ch x ∧ ch x ≤ 255 := ⟨ch_nonneg x, ch_le x⟩

@[simp] theorem asU8_ch (x : UInt8) : asU8 (ch x) = x := by
  have h := x.toNat_lt
  have : ((x.toNat : Int) % 256).toNat = x.toNat := by omega
  rw [asU8, ch, this, UInt8.ofNat_toNat]

theorem ch_asU8_emod (x : Int) : ch (asU8 x) = x % 256 := by
  simp only [ch, asU8]
  have hlt : (x % 256).toNat < 256 := by omega
  rw [UInt8.toNat_ofNat_of_lt' hlt]
  omega

theorem ch_asU8 (v : Int) (h0 : 0 ≤ v) (h1 : v ≤ 255) : ch (asU8 v) = v := by
  rw [ch_asU8_emod]
  omega

theorem asU8_congr {x y : Int} (h : x % 256 = y % 256) : asU8 x = asU8 y := by
  rw [asU8, h, asU8]

theorem ch_eq_zero_iff (x : UInt8) : ch x = 0 ↔ x = 0 := by
  constructor
  · intro h
    rw [← asU8_ch x, h]
    rfl
  · rintro rfl
    rfl

theorem beq_zero_iff (x : UInt8) : (x == 0) = true ↔ x = 0 := beq_iff_eq

/-- the `as u8` in `mul_un8` never truncates on bytes -/
theorem ch_mulUn8 (a b : Int) (ha0 : 0 ≤ a) (ha : a ≤ 255) (hb0 : 0 ≤ b) (hb : b ≤ 255) :
    ch (mulUn8 a b) = mulUn8I a b := by
  have h := mulUn8I_bounds_nonneg a b ha0 hb0 hb
  exact ch_asU8 _ h.1 (by omega)

theorem ch_mulUn8_ch (x y : UInt8) : ch (mulUn8 (ch x) (ch y)) = mulUn8I (ch x) (ch y) :=
  ch_mulUn8 _ _ (ch_nonneg _) (ch_le _) (ch_nonneg _) (ch_le _)

theorem inByte_of_range {x : Int} (h : 0 ≤ x ∧ x ≤ 255) : inByte x = true := by
  rw [inByte, Bool.and_eq_true, decide_eq_true_eq, decide_eq_true_eq]
  exact h

theorem inByte_ch (x : UInt8) : inByte (ch x) = true := inByte_of_range (ch_range x)

theorem blend8_same (x op : UInt8) : blend8 x x op = x := by
  simp only [blend8, Int.sub_self, mulUn8I_zero_left, Int.add_zero]
  exact asU8_ch x

theorem normal_ra_range (sa ba : Int) (hs0 : 0 ≤ sa) (hs : sa ≤ 255) (hb0 : 1 ≤ ba)
    (hb : ba ≤ 255) :
    1 ≤ sa + ba - mulUn8I ba sa ∧ sa + ba - mulUn8I ba sa ≤ 255 ∧
    sa ≤ sa + ba - mulUn8I ba sa := by
  -- `mul_un8(ba, sa)` lies between `sa + ba - 255` (as `(255 - sa) * (255 - ba) ≥ 0`) and both
  -- factors
  have h1 := mulUn8I_bounds_nonneg ba sa (by omega) hs0 hs
  have h2 := (mulUn8I_between (a := ba) (b := sa) (lo := sa + ba - 255) (hi := sa)
    (by linarith [Int.mul_nonneg (show 0 ≤ 255 - sa by omega) (show 0 ≤ 255 - ba by omega)])
    (by linarith [Int.mul_le_mul_of_nonneg_right hb hs0]) (by omega) (by omega))
  omega

/- What follows carries the namespace of C17, the property it is stated for; C03 opens it. -/
namespace C17

theorem fromRgbaI32_eq_ok {m : Profile} {r g b a : Int} {x : RGBA}
    (h : fromRgbaI32 m r g b a = .ok x) : x = ⟨asU8 r, asU8 g, asU8 b, asU8 a⟩ := by
  unfold fromRgbaI32 at h
  split at h
  · cases h
  · cases h; rfl

theorem fromRgbaI32_inRange (m : Profile) (r g b a : Int) (hr : 0 ≤ r ∧ r ≤ 255)
    (hg : 0 ≤ g ∧ g ≤ 255) (hb : 0 ≤ b ∧ b ≤ 255) (ha : 0 ≤ a ∧ a ≤ 255) :
    fromRgbaI32 m r g b a = .ok ⟨asU8 r, asU8 g, asU8 b, asU8 a⟩ := by
  simp only [fromRgbaI32, inByte_of_range hr, inByte_of_range hg, inByte_of_range hb,
    inByte_of_range ha, Bool.and_self, Bool.not_true, Bool.and_false, Bool.false_eq_true,
    if_false]

theorem fromRgbaI32_noAsserts {m : Profile} (hm : m.debugAsserts = false) (r g b a : Int) :
    fromRgbaI32 m r g b a = .ok ⟨asU8 r, asU8 g, asU8 b, asU8 a⟩ := by
  simp only [fromRgbaI32, hm, Bool.false_and, Bool.false_eq_true, if_false]

theorem fromRgbaI32_bytes (m : Profile) (r g b a : UInt8) :
    fromRgbaI32 m (ch r) (ch g) (ch b) (ch a) = .ok ⟨r, g, b, a⟩ := by
  rw [fromRgbaI32_inRange m _ _ _ _ (ch_range r) (ch_range g) (ch_range b) (ch_range a),
    asU8_ch, asU8_ch, asU8_ch, asU8_ch]

theorem channel_range (bc sc sa ra : Int) (hb0 : 0 ≤ bc) (hb : bc ≤ 255) (hs0 : 0 ≤ sc)
    (hs : sc ≤ 255) (hra : 0 < ra) (hsa0 : 0 ≤ sa) (hsa : sa ≤ ra) :
    0 ≤ bc + Int.tdiv ((sc - bc) * sa) ra ∧ bc + Int.tdiv ((sc - bc) * sa) ra ≤ 255 := by
  rcases Int.le_total 0 (sc - bc) with hd | hd
  · have := tdiv_scaled_nonneg (sc - bc) sa ra hra hsa0 hsa hd
    omega
  · have := tdiv_scaled_nonpos (sc - bc) sa ra hra hsa0 hsa hd
    omega

/-- modes whose arithmetic is integer only -/
def intMode (mode : Nat) : Bool := mode ≤ 18 && !(mode == 9 || (12 ≤ mode && mode ≤ 15))

end C17

end Ase.Proofs
