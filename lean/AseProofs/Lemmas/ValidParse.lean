import AseProofs.Lemmas.Decoders
import AseProofs.Lemmas.Machine
/-
  C05: the invariant `PInv` of the `ParseInfo` state machine, and the validation stage: each of
  its traversals is walked once, in `RSat` form, for "never panics" (C04) and for what a
  successful run delivers (`rsat_validateTilesets`, `rsat_validateRow`, `rsat_validateRows`;
  `.noPanic` and `.of_ok` project).  First the panic-freedom fact the walks rest on.
-/
namespace Ase.Proofs.C04
open Ase

theorem noPanic_validatePixels (pal : Option Palette) (fmt : PixelFormat) (bg : Bool)
    (raw : RawPixels) : Res.NoPanic (validatePixels pal fmt bg raw) := by
  cases raw with
  | indexed px =>
      cases pal with
      | none => exact Res.noPanic_err _
      | some p =>
          refine noPanic_ite (Res.noPanic_err _) ?_
          cases fmt with
          | indexed tci => exact Res.noPanic_ok _
          | _ => exact Res.noPanic_err _
  | _ => exact Res.noPanic_ok _

end Ase.Proofs.C04

namespace Ase.Proofs.C05
open Ase Ase.Proofs Ase.Proofs.Machine Ase.Proofs.C10 Ase.Proofs.C04

def RawCelOk (p : Nat × RawCel RawPixels) : Prop :=
  p.2.data.layerIndex.toNat = p.1 ∧ RawContentOk p.2.content

def PInv (n : Nat) (pi : ParseInfo) : Prop :=
  pi.cels.size = n ∧ (∀ row ∈ pi.cels, ∀ p ∈ row, RawCelOk p) ∧
    (∀ p ∈ pi.tilesets, RawTilesetOk p.2)

theorem pinv_new (n : Nat) (t : UInt16) : PInv n (ParseInfo.new n t) := by
  refine ⟨by simp [ParseInfo.new], ?_, ?_⟩
  · intro row hrow p hp
    simp only [ParseInfo.new, Array.mem_replicate] at hrow
    rw [hrow.2] at hp
    cases hp
  · intro p hp
    simp [ParseInfo.new] at hp

theorem PInv.setRow {n : Nat} {pi pi' : ParseInfo} (hinv : PInv n pi) (f : Nat)
    {row : FrameCels RawPixels} (hc : pi'.cels = pi.cels.set! f row)
    (ht : pi'.tilesets = pi.tilesets) (hrow : ∀ p ∈ row, RawCelOk p) : PInv n pi' := by
  unfold PInv
  rw [hc, ht]
  refine ⟨?_, fun row' hrow' p hp => ?_, hinv.2.2⟩
  · simp only [Array.set!_eq_setIfInBounds, Array.size_setIfInBounds]
    exact hinv.1
  · rcases mem_set! hrow' with rfl | h
    · exact hrow p hp
    · exact hinv.2.1 row' h p hp

theorem pinv_stepSem {n : Nat} (frame : Nat) (pi : ParseInfo) (it : Spec.SItem) (pi' : ParseInfo)
    (hinv : PInv n pi) (hit : ItemOk it) (h : Spec.stepSem frame pi it = .ok pi') :
    PInv n pi' := by
  cases it with
  | cel cel =>
      obtain ⟨row, hrow, _, rfl⟩ := addCel_eq_ok h
      refine hinv.setRow frame rfl rfl (fun p hp => ?_)
      rcases mem_frameInsert hp with rfl | hp
      · exact ⟨rfl, hit⟩
      · exact hinv.2.1 row (Array.mem_of_getElem? hrow) p hp
  | userData ud =>
      cases addUserData_eq_ok h with
      | @cel f l row c _ hrow _ =>
          refine hinv.setRow f rfl rfl (fun p hp => ?_)
          have hold := hinv.2.1 row (Array.mem_of_getElem? hrow)
          rcases mem_frameModify hp with hp | ⟨c0, h0, h1⟩
          · exact hold p hp
          · obtain ⟨k, c⟩ := p
            cases h1
            -- `RawCelOk` does not look at `userData`: the fact about `c0` is the fact about the
            -- modified cel, by unfolding
            exact (hold _ h0 :)
      | _ => exact hinv
  | tileset t =>
      cases h
      refine ⟨hinv.1, hinv.2.1, fun p hp => ?_⟩
      rcases mem_assocInsert hp with rfl | hp
      · exact hit
      · exact hinv.2.2 p hp
  | tags ts | oldPalette p =>
      -- the cel rows and the tilesets are those of `pi`
      simp only [WholeFile.stepSem_tags, WholeFile.stepSem_oldPalette] at h
      cases h
      exact hinv
  | _ => cases h; exact hinv

/-- `LayersData::validate`, inverted -/
theorem validateLayers_tilemap {P} {tilesets : List (Nat × Tileset P)} {layers : Array LayerData}
    (h : validateLayers tilesets layers = true) {ld : LayerData} (hld : ld ∈ layers)
    {tsid : UInt32} (hlt : ld.layerType = .tilemap tsid) :
    (assocGet? tsid.toNat tilesets).isSome = true := by
  simp only [validateLayers, Array.all_eq_true_iff_forall_mem] at h
  have := h ld hld
  rwa [hlt] at this

def TilesetRel (pal : Option Palette) (fmt : PixelFormat) (t : Tileset RawPixels)
    (t' : Tileset Pixels) : Prop :=
  ∃ raw px, t.pixels = some raw ∧ validatePixels pal fmt false raw = .ok px ∧
    t' = { id := t.id, emptyTileIsZero := t.emptyTileIsZero, tileCount := t.tileCount,
           tileW := t.tileW, tileH := t.tileH, baseIndex := t.baseIndex, name := t.name,
           extFile := t.extFile, pixels := some px }

/-- `TilesetsById::validate` never panics, and what it delivers -/
theorem rsat_validateTilesets (pal : Option Palette) (fmt : PixelFormat) :
    ∀ l : List (Nat × Tileset RawPixels),
      RSat (All₂ (fun p p' => p'.1 = p.1 ∧ TilesetRel pal fmt p.2 p'.2) l)
        (validateTilesets pal fmt l)
  | [] => All₂.nil
  | (k, t) :: tl => by
      unfold validateTilesets
      split
      · trivial
      · rename_i raw hraw
        split
        · rename_i px hpx
          exact RSat.map _ ((rsat_validateTilesets pal fmt tl).mono fun _ hr =>
            All₂.cons ⟨rfl, raw, px, hraw, hpx, rfl⟩ hr)
        · trivial
        · rename_i s hs
          exact absurd hs (noPanic_validatePixels _ _ _ _ s)

variable {layers : Array LayerData} {tilesets : List (Nat × Tileset Pixels)} {pal : Option Palette}
  {fmt : PixelFormat} {numFrames : Nat} {cels : Array (FrameCels RawPixels)}

variable (tilesets pal fmt numFrames cels) in
/-- the three ways `RawCel::validate` succeeds on layer `k` with data `ld`, one per kind of
    content: position, opacity, layer index and user data are kept, and so is the content but for
    the pixels of a raw cel; an absent tileset counts as empty -/
inductive CelValidated (ld : LayerData) (k : Nat) : RawCel RawPixels → RawCel Pixels → Prop
  | raw {d ud w h px px'} : validatePixels pal fmt ld.isBackground px = .ok px' →
      CelValidated ld k ⟨d, .raw w h px, ud⟩ ⟨d, .raw w h px', ud⟩
  | linked {d ud f} : isLinkable numFrames cels f.toNat k = true →
      CelValidated ld k ⟨d, .linked f, ud⟩ ⟨d, .linked f, ud⟩
  | tilemap {d ud t tsid} : ld.layerType = .tilemap tsid →
      (∀ id ∈ t.tiles, ∃ ts, assocGet? tsid.toNat tilesets = some ts ∧
        id.toNat < ts.tileCount.toNat) →
      CelValidated ld k ⟨d, .tilemap t, ud⟩ ⟨d, .tilemap t, ud⟩

/-- `RawCel::validate` in one walk: what a success delivers, and no panic when the layer index is
    in range (`layers[k]` is its one panic site; `validateRow` checks the range first) -/
theorem validateCel_spec (k : Nat) (c : RawCel RawPixels) :
    RSatA (k < layers.size)
      (fun c' => ∃ ld, layers[k]? = some ld ∧ CelValidated tilesets pal fmt numFrames cels ld k c c')
      (validateCel layers tilesets pal fmt numFrames cels k c) := by
  obtain ⟨d, content, ud⟩ := c
  unfold validateCel
  split
  · rename_i hnone
    exact Nat.not_lt.mpr (Array.getElem?_eq_none_iff.mp hnone)
  · rename_i ld hld
    cases content with
    | raw w h px =>
        dsimp only
        split
        · rename_i px' hpx
          exact ⟨ld, hld, .raw hpx⟩
        · trivial
        · rename_i s hs
          exact absurd hs (noPanic_validatePixels _ _ _ _ s)
    | linked f =>
        dsimp only
        split
        · rename_i hl
          exact ⟨ld, hld, .linked hl⟩
        · trivial
    | tilemap t =>
        dsimp only
        split
        · rename_i tsid hlt
          cases hg : assocGet? tsid.toNat tilesets <;> dsimp only <;> split
          · rename_i hall
            refine ⟨ld, hld, .tilemap hlt fun id hid => ?_⟩
            simp only [Array.all_eq_true_iff_forall_mem, decide_eq_true_eq] at hall
            exact absurd (hall id hid) (Nat.not_lt_zero _)
          · trivial
          · rename_i ts hall
            refine ⟨ld, hld, .tilemap hlt fun id hid => ⟨ts, hg, ?_⟩⟩
            simp only [Array.all_eq_true_iff_forall_mem, decide_eq_true_eq] at hall
            exact hall id hid
          · trivial
        · trivial

theorem validateCel_isRaw {k : Nat} {c : RawCel RawPixels} {c' : RawCel Pixels}
    (h : validateCel layers tilesets pal fmt numFrames cels k c = .ok c') :
    c'.content.isRaw = c.content.isRaw := by
  obtain ⟨_, _, hc⟩ := (validateCel_spec _ _).of_ok h
  cases hc <;> rfl

variable (layers tilesets pal fmt numFrames cels) in
def RowRel (row : FrameCels RawPixels) (row' : FrameCels Pixels) : Prop :=
  All₂ (fun p p' => p'.1 = p.1 ∧ p.1 < layers.size ∧
    validateCel layers tilesets pal fmt numFrames cels p.1 p.2 = .ok p'.2) row row'

variable (layers tilesets pal fmt numFrames cels) in
/-- `validateRow` never panics (its range check guards `layers[layer]` in `RawCel::validate`),
    and what it delivers -/
theorem rsat_validateRow : ∀ row : FrameCels RawPixels,
    RSat (RowRel layers tilesets pal fmt numFrames cels row)
      (validateRow layers tilesets pal fmt numFrames cels row)
  | [] => All₂.nil
  | (layer, c) :: tl => by
      unfold validateRow
      split
      · trivial
      · rename_i hge
        have hl : layer < layers.size := by omega
        split
        · rename_i c' hc'
          exact RSat.map _ ((rsat_validateRow tl).mono fun _ hr => All₂.cons ⟨rfl, hl, hc'⟩ hr)
        · trivial
        · rename_i s hs
          exact absurd hs (((validateCel_spec layer c).rsat hl).noPanic s)

variable (layers tilesets pal fmt numFrames cels) in
theorem rsat_validateRows : ∀ rows : List (FrameCels RawPixels),
    RSat (All₂ (RowRel layers tilesets pal fmt numFrames cels) rows)
      (validateRows layers tilesets pal fmt numFrames cels rows)
  | [] => All₂.nil
  | row :: tl => by
      have hrow := rsat_validateRow layers tilesets pal fmt numFrames cels row
      unfold validateRows
      split
      · rename_i r hr
        exact RSat.map _ ((rsat_validateRows tl).mono fun _ hrs => All₂.cons (hrow.of_ok hr) hrs)
      · trivial
      · rename_i s hs
        exact absurd hs (hrow.noPanic s)

theorem validateRows_rel {rows : List (FrameCels RawPixels)} {rows' : List (FrameCels Pixels)}
    (h : validateRows layers tilesets pal fmt numFrames cels rows = .ok rows') :
    All₂ (RowRel layers tilesets pal fmt numFrames cels) rows rows' :=
  (rsat_validateRows layers tilesets pal fmt numFrames cels rows).of_ok h

end Ase.Proofs.C05
