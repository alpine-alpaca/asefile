import AseProofs.Lemmas.InflateT
import Ase.Inflate
/-
  Stored-block zlib streams (`Ase.Zlib.deflateStored`) inflate to their payload.  The input is a
  list `L`; what `byteAt`, `size` and `extract` see of it from byte `p` on is read off `L.drop p`.
-/
namespace Ase.ZlibT

theorem adlerLoop_lt (bs : ByteArray) : ∀ (n i a b : Nat), a < 65521 → b < 65521 →
    adlerLoop bs n i a b < 4294967296 := by
  intro n
  induction n with
  | zero =>
      intro i a b ha hb
      simp only [adlerLoop]
      omega
  | succ n ih =>
      intro i a b _ _
      exact ih _ _ _ (Nat.mod_lt _ (by decide)) (Nat.mod_lt _ (by decide))

theorem byteAt_getElem {bs : ByteArray} {i : Nat} (h : i < bs.size) :
    byteAt bs i = bs[i].toNat := by
  show (bs.data[i]!).toNat = _
  rw [getElem!_pos bs.data i h]
  rfl

/-- the `for` loop of the encoder's `Zlib.adler32`, `i` bytes before the end, is the decoder's
    `adlerLoop` -/
theorem zlib_adler_loop (bs : ByteArray) : ∀ (i : Nat) (h : i ≤ bs.size) (a b : Nat),
    ∃ a' b', ByteArray.forIn.loop (m := Id) bs
      (fun x (s : Nat × Nat) =>
        pure (ForInStep.yield
          ((s.fst + x.toNat) % 65521, (s.snd + (s.fst + x.toNat) % 65521) % 65521)))
      i h (a, b) = pure (a', b') ∧ adlerLoop bs i (bs.size - i) a b = b' * 65536 + a' := by
  intro i
  induction i with
  | zero =>
      intro h a b
      exact ⟨a, b, by rw [ByteArray.forIn.loop.eq_1], rfl⟩
  | succ i ih =>
      intro h a b
      have hi : bs.size - 1 - i < bs.size := by omega
      rw [ByteArray.forIn.loop.eq_2, adlerLoop, show bs.size - (i + 1) = bs.size - 1 - i by omega,
        byteAt_getElem hi, show bs.size - 1 - i + 1 = bs.size - i by omega]
      exact ih (by omega) _ _

theorem zlib_adler32_eq (bs : ByteArray) : Zlib.adler32 bs = adler32 bs := by
  obtain ⟨a, b, h1, h2⟩ := zlib_adler_loop bs bs.size (Nat.le_refl _) 1 0
  unfold Zlib.adler32 adler32
  simp only [forIn, ByteArray.forIn]
  rw [Nat.sub_self] at h2
  rw [h1, h2]
  rfl

theorem byteAt_drop (L : List UInt8) (p i : Nat) :
    byteAt ⟨L.toArray⟩ (p + i) = ((L.drop p)[i]?.getD 0).toNat := by
  rw [List.getElem?_drop]
  show (L.toArray[p + i]!).toNat = _
  rw [List.getElem!_toArray, List.getElem!_eq_getElem?_getD]
  rfl

theorem extract_drop (L : List UInt8) (p a n : Nat) :
    (ByteArray.mk L.toArray).extract (p + a) (p + a + n) =
      ⟨(((L.drop p).drop a).take n).toArray⟩ := by
  apply ByteArray.ext
  rw [ByteArray.data_extract, List.extract_toArray, List.extract_eq_take_drop,
    Nat.add_sub_cancel_left, List.drop_drop]

theorem getBit_at {data : ByteArray} {k j : Nat} (hj : j < 8) (hk : k < data.size) :
    getBit data (8 * k + j) = .ok ((byteAt data k >>> j) % 2) (8 * k + j + 1) := by
  rw [getBit, Nat.mul_add_div (by decide), Nat.div_eq_of_lt hj, Nat.add_zero, Nat.mul_add_mod,
    Nat.mod_eq_of_lt hj, if_pos hk]

theorem getBits_at {data : ByteArray} {k : Nat} (hk : k < data.size) :
    ∀ (n j : Nat), j + n ≤ 8 →
    getBits data n (8 * k + j) = .ok ((byteAt data k >>> j) % 2 ^ n) (8 * k + j + n) := by
  intro n
  induction n with
  | zero =>
      intro j _
      rw [getBits, Nat.pow_zero, Nat.mod_one]
      rfl
  | succ n ih =>
      intro j h
      simp only [getBits, getBit_at (show j < 8 by omega) hk]
      rw [Nat.add_assoc (8 * k) j 1, ih (j + 1) (by omega), Nat.shiftRight_succ, Nat.pow_succ',
        Nat.mod_mul, show 8 * k + (j + 1) + n = 8 * k + j + (n + 1) by omega]

/-- header byte 0 or 1: block type stored, the last block iff 1 -/
theorem blocks_stored_header {data : ByteArray} {k : Nat} (hk : k < data.size)
    (hf : byteAt data k ≤ 1) (fuel : Nat) (out : ByteArray) :
    blocks data (fuel + 1) out (8 * k) =
      match storedBlock data out (8 * k + 3) with
      | .err e => .err e
      | .ok out' pos =>
          if byteAt data k == 1 then .ok out' pos else blocks data fuel out' pos := by
  have h1 : getBit data (8 * k) = .ok (byteAt data k % 2) (8 * k + 1) :=
    getBit_at (j := 0) (by decide) hk
  have h2 := getBits_at hk 2 1 (by decide)
  have e : byteAt data k = 0 ∨ byteAt data k = 1 := by omega
  simp only [blocks, h1, h2]
  rcases e with e | e
  · rw [e]
    rfl
  · rw [e]
    rfl

theorem storedBlock_len {data : ByteArray} {pos p n : Nat} (hp : (pos + 7) / 8 = p)
    (hn : n ≤ 65535) (h0 : byteAt data p = n % 256) (h1 : byteAt data (p + 1) = n / 256)
    (h2 : byteAt data (p + 2) = (65535 - n) % 256) (h3 : byteAt data (p + 3) = (65535 - n) / 256)
    (hsz : p + 4 + n ≤ data.size) (out : ByteArray) :
    storedBlock data out pos =
      .ok (out ++ data.extract (p + 4) (p + 4 + n)) (8 * (p + 4 + n)) := by
  unfold storedBlock
  simp only [hp, h0, h1, h2, h3, Nat.mod_add_div, Nat.add_sub_cancel' hn]
  rw [if_neg (Nat.not_lt.mpr (Nat.le_trans (Nat.le_add_right _ n) hsz)), if_neg (by decide),
    if_neg (Nat.not_lt.mpr hsz), Nat.mul_comm]

theorem blocks_stored {L : List UInt8} {k n : Nat} {f : UInt8} {blk more : List UInt8}
    (hd : L.drop k = f :: UInt8.ofNat (n % 256) :: UInt8.ofNat (n / 256) ::
        UInt8.ofNat ((65535 - n) % 256) :: UInt8.ofNat ((65535 - n) / 256) :: (blk ++ more))
    (hf : f.toNat ≤ 1) (hn : blk.length = n) (hn' : n ≤ 65535) (fuel : Nat) (out : ByteArray) :
    blocks ⟨L.toArray⟩ (fuel + 1) out (8 * k) =
      (if f.toNat == 1 then .ok (out ++ ⟨blk.toArray⟩) (8 * (k + 1 + 4 + n))
       else blocks ⟨L.toArray⟩ fuel (out ++ ⟨blk.toArray⟩) (8 * (k + 1 + 4 + n))) ∧
    L.drop (k + 1 + 4 + n) = more := by
  -- plan: byte `k + i` is the `i`-th element of the pattern `hd` (`b i`): the header byte, the
  -- two bytes of LEN, the two of NLEN; the extract behind them is `blk` (`ex`); then the round of
  -- `blocks` is the header, the length check and the extract
  have hlen := congrArg List.length hd
  simp only [List.length_drop, List.length_cons, List.length_append, hn] at hlen
  obtain ⟨hk, hsz⟩ : k < L.length ∧ k + 1 + 4 + n ≤ L.length := by omega
  have b := fun i => byteAt_drop L k i
  simp only [hd] at b
  have lo := fun x => UInt8.toNat_ofNat_of_lt' (Nat.mod_lt x (show 0 < 256 by decide))
  have hi := fun x (h : x < 256 * 256) => UInt8.toNat_ofNat_of_lt' (Nat.div_lt_of_lt_mul h)
  have b0 : byteAt ⟨L.toArray⟩ k = f.toNat := b 0
  have hLEN0 : byteAt ⟨L.toArray⟩ (k + 1) = n % 256 := (b 1).trans (lo n)
  have hLEN1 : byteAt ⟨L.toArray⟩ (k + 1 + 1) = n / 256 :=
    (b 2).trans (hi n (Nat.lt_succ_of_le hn'))
  have hNLEN0 : byteAt ⟨L.toArray⟩ (k + 1 + 2) = (65535 - n) % 256 := (b 3).trans (lo _)
  have hNLEN1 : byteAt ⟨L.toArray⟩ (k + 1 + 3) = (65535 - n) / 256 :=
    (b 4).trans (hi _ (Nat.lt_succ_of_le (Nat.sub_le _ _)))
  have ex := extract_drop L k 5 n
  rw [hd] at ex
  simp only [List.drop_succ_cons, List.drop_zero, List.take_left' hn] at ex
  rw [blocks_stored_header hk (b0 ▸ hf),
    storedBlock_len (p := k + 1) (by omega) hn' hLEN0 hLEN1 hNLEN0 hNLEN1 hsz,
    b0, ex, ← List.drop_drop, ← List.drop_drop, ← List.drop_drop, hd]
  simp only [List.drop_succ_cons, List.drop_zero, List.drop_left' hn, and_self]

theorem go_stored (L : List UInt8) : ∀ (gf : Nat) (rest : Bytes) (k : Nat) (out : ByteArray)
    (fuel : Nat) (tail : Bytes),
    L.drop k = Zlib.deflateStored.go rest gf ++ tail →
    rest.length < 65535 * gf →
    8 * L.length < fuel + 8 * k →
    ∃ k', blocks ⟨L.toArray⟩ fuel out (8 * k) = .ok (out ++ ⟨rest.toArray⟩) (8 * k') ∧
      L.drop k' = tail := by
  intro gf
  induction gf with
  | zero =>
      intro rest k out fuel tail _ h
      exact absurd h (Nat.not_lt_zero _)
  | succ gf ih =>
      intro rest k out fuel tail hd hg hf
      rw [Zlib.deflateStored.go] at hd
      simp only [List.cons_append, List.nil_append, List.append_assoc] at hd
      have hk := congrArg List.length hd
      simp only [List.length_drop, List.length_cons] at hk
      obtain ⟨fuel, rfl⟩ : ∃ f, fuel = f + 1 := ⟨fuel - 1, by omega⟩
      obtain ⟨hb, hd'⟩ :=
        blocks_stored hd (by split <;> decide) rfl (List.length_take_le _ _) fuel out
      rw [hb]
      by_cases hemp : (List.drop 65535 rest).isEmpty = true
      · rw [if_pos hemp] at hd' ⊢
        rw [List.isEmpty_iff, List.drop_eq_nil_iff] at hemp
        rw [List.take_of_length_le hemp] at hd' ⊢
        exact ⟨_, if_pos rfl, hd'⟩
      · rw [if_neg hemp] at hd' ⊢
        rw [List.isEmpty_iff, List.drop_eq_nil_iff] at hemp
        have hlt : (rest.drop 65535).length < 65535 * gf := by
          rw [List.length_drop]
          omega
        obtain ⟨k', hk', hd''⟩ := ih (rest.drop 65535) _
          (out ++ ⟨(rest.take 65535).toArray⟩) fuel tail hd' hlt (by omega)
        refine ⟨k', ?_, hd''⟩
        rw [if_neg (by decide), hk', ByteArray.append_assoc,
          ← mk_toArray_append (rest.take 65535), List.take_append_drop]

theorem inflateZlib_of_blocks {data out : ByteArray} {k : Nat}
    (h0 : byteAt data 0 = 0x78) (h1 : byteAt data 1 = 0x01)
    (hb : blocks data (8 * data.size) .empty 16 = .ok out (8 * k)) (hk : k + 4 ≤ data.size)
    (ht : byteAt data k * 16777216 + byteAt data (k + 1) * 65536 + byteAt data (k + 2) * 256
        + byteAt data (k + 3) = adler32 out) :
    inflateZlib data = .ok out := by
  unfold inflateZlib
  rw [if_neg (by omega), h0, h1, if_neg (by decide), hb]
  simp only []
  have hsame : ¬ (adler32 out != adler32 out) = true := by
    simp only [bne_self_eq_false, Bool.false_eq_true, not_false_eq_true]
  rw [show (8 * k + 7) / 8 = k by omega, if_neg (by omega), ht, if_neg hsame]

theorem be32 (a : Nat) :
    a / 16777216 * 16777216 + a / 65536 % 256 * 65536 + a / 256 % 256 * 256 + a % 256 = a := by
  omega

theorem inflateZlib_deflateStored (bs : Bytes) :
    inflateZlib ⟨(Zlib.deflateStored bs).toArray⟩ = .ok ⟨bs.toArray⟩ := by
  -- plan: the stream is a list `L`; its two header bytes (`c`), the blocks (`go_stored`, which
  -- stop at byte `k`), and the trailer at `k`, the big-endian Adler-32 (`t`, `be32`)
  have had : adler32 ⟨bs.toArray⟩ < 16777216 * 256 :=
    adlerLoop_lt _ _ 0 1 0 (by decide) (by decide)
  unfold Zlib.deflateStored
  simp only [zlib_adler32_eq]
  generalize hadv : adler32 ⟨bs.toArray⟩ = ad at had
  generalize hL : ([0x78, 0x01] ++ Zlib.deflateStored.go bs (bs.length / 65535 + 1) ++
    [UInt8.ofNat (ad / 16777216), UInt8.ofNat (ad / 65536 % 256), UInt8.ofNat (ad / 256 % 256),
      UInt8.ofNat (ad % 256)] : Bytes) = L
  obtain ⟨tl, hd0⟩ : ∃ tl, L.drop 0 = 0x78 :: 0x01 :: tl := ⟨_, hL.symm⟩
  obtain ⟨k, hb, hd⟩ := go_stored L _ bs 2 .empty (8 * L.length) _ (by rw [← hL]; rfl)
    (Nat.lt_mul_div_succ _ (by decide)) (by omega)
  have c := fun i => byteAt_drop L 0 i
  have t := fun i => byteAt_drop L k i
  simp only [hd0, hd, Nat.zero_add] at c t
  have hlen := congrArg List.length hd
  simp only [List.length_drop, List.length_cons, List.length_nil] at hlen
  rw [ByteArray.empty_append] at hb
  refine inflateZlib_of_blocks (c 0) (c 1) hb (by show _ ≤ L.length; omega) ?_
  have t0 : byteAt ⟨L.toArray⟩ k = _ := t 0
  have m := fun x => UInt8.toNat_ofNat_of_lt' (Nat.mod_lt x (show 0 < 256 by decide))
  rw [t0, t 1, t 2, t 3, hadv]
  simp only [List.getElem?_cons_zero, List.getElem?_cons_succ, Option.getD_some]
  rw [m, m, m, UInt8.toNat_ofNat_of_lt' (Nat.div_lt_of_lt_mul had)]
  exact be32 ad

end Ase.ZlibT
