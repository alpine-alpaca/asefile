import Ase.Chunks
/-
  File header, frames, chunk framing, the `ParseInfo` state machine and the
  validation stage (`parse.rs`, `cel.rs:194-305`, `layer.rs:165-185,300-321`,
  `tileset.rs:287-325`, `pixel.rs:150-185`, `palette.rs:34-46`).
-/
namespace Ase

inductive ChunkType where
  | oldPalette04 | oldPalette11 | palette | layer | cel | celExtra | colorProfile
  | mask | path | tags | userData | slice | externalFiles | tileset
  deriving DecidableEq, Repr, Inhabited

def parseChunkType (code : UInt16) : Res ChunkType :=
  match code.toNat with
  | 0x0004 => .ok .oldPalette04
  | 0x0011 => .ok .oldPalette11
  | 0x2004 => .ok .layer
  | 0x2005 => .ok .cel
  | 0x2006 => .ok .celExtra
  | 0x2007 => .ok .colorProfile
  | 0x2008 => .ok .externalFiles
  | 0x2016 => .ok .mask
  | 0x2017 => .ok .path
  | 0x2018 => .ok .tags
  | 0x2019 => .ok .palette
  | 0x2020 => .ok .userData
  | 0x2022 => .ok .slice
  | 0x2023 => .ok .tileset
  | _ => .err .unsupported

structure Chunk where
  ty : ChunkType
  data : Bytes
  deriving Repr, Inhabited

inductive UDCtx where
  | cel (frame layer : Nat)
  | layer (idx : Nat)
  | oldPalette
  | tag (idx : Nat)
  | slice (idx : Nat)
  deriving DecidableEq, Repr, Inhabited

structure ParseInfo where
  palette : Option Palette
  layers : Array LayerData
  cels : Array (FrameCels RawPixels)
  frameTimes : Array UInt16
  tags : Option (Array Tag)
  extFiles : List (Nat × ExternalFile)
  tilesets : List (Nat × Tileset RawPixels)
  spriteUserData : Option UserData
  ctx : Option UDCtx
  slices : Array Slice
  deriving Repr, Inhabited

def ParseInfo.new (numFrames : Nat) (defaultTime : UInt16) : ParseInfo :=
  { palette := none, layers := #[], cels := Array.replicate numFrames [],
    frameTimes := Array.replicate numFrames defaultTime, tags := none, extFiles := [],
    tilesets := [], spriteUserData := none, ctx := none, slices := #[] }

/-! ### chunk framing (`parse.rs:426-468`) -/

section top
variable {σ : Type} (S : Src σ)

/-- `Chunk::read`; `avail` is the frame's remaining byte budget (an `i64`). -/
def readChunk (avail : Int) : RdS σ (Chunk × Int) := do
  let size ← readU32 S
  let code ← readU16 S
  let ty ← RdS.lift (parseChunkType code)
  if size.toNat < 6 then RdS.fail .invalid else
  if (size.toNat : Int) > avail then RdS.fail .invalid else
  let data ← readN S (size.toNat - 6)
  pure (⟨ty, data⟩, avail - size.toNat)

/-- `Chunk::read_all` -/
def readChunks : Nat → Int → RdS σ (List Chunk)
  | 0, _ => pure []
  | n + 1, avail => do
      let (c, avail') ← readChunk S avail
      let rest ← readChunks n avail'
      pure (c :: rest)

structure FrameHeader where
  numBytes : UInt32
  oldChunks : UInt16
  duration : UInt16
  newChunks : UInt32
  deriving Repr, Inhabited

def readFrameHeader : RdS σ FrameHeader := do
  let numBytes ← readU32 S
  let magic ← readU16 S
  if magic.toNat != 0xF1FA then RdS.fail .invalid else
  let old ← readU16 S
  let dur ← readU16 S
  let _ph ← readU16 S
  let new ← readU32 S
  pure ⟨numBytes, old, dur, new⟩

def FrameHeader.numChunks (h : FrameHeader) : Nat :=
  if h.newChunks.toNat == 0 then h.oldChunks.toNat else h.newChunks.toNat

structure Header where
  numFrames : UInt16
  width : UInt16
  height : UInt16
  colorDepth : UInt16
  defaultTime : UInt16
  tci : UInt8
  pixelW : UInt8
  pixelH : UInt8
  deriving Repr, Inhabited

def readHeader : RdS σ Header := do
  let _size ← readU32 S
  let magic ← readU16 S
  if magic.toNat != 0xA5E0 then RdS.fail .invalid else
  let numFrames ← readU16 S
  let width ← readU16 S
  let height ← readU16 S
  let depth ← readU16 S
  let _flags ← readU32 S
  let defTime ← readU16 S
  let _p1 ← readU32 S
  let _p2 ← readU32 S
  let tci ← readU8 S
  let _i1 ← readU8 S
  let _i2 ← readU16 S
  let _ncol ← readU16 S
  let pw ← readU8 S
  let ph ← readU8 S
  let _gx ← readI16 S
  let _gy ← readI16 S
  let _gw ← readU16 S
  let _gh ← readU16 S
  skip S 84
  pure ⟨numFrames, width, height, depth, defTime, tci, pw, ph⟩

end top

def pixelRatioOk (pw ph : UInt8) : Bool :=
  !(pw.toNat != 0 && ph.toNat != 0 && !(pw.toNat == 1 && ph.toNat == 1))

def parsePixelFormat (depth : UInt16) (tci : UInt8) : Res PixelFormat :=
  match depth.toNat with
  | 8 => .ok (.indexed tci)
  | 16 => .ok .grayscale
  | 32 => .ok .rgba
  | _ => .err .invalid

/-! ### the `ParseInfo` state machine (`parse.rs:31-141, 294-363`) -/

/-- run a chunk decoder on a chunk's buffer, ignoring what is left -/
def runChunk {α} (p : Rd α) (data : Bytes) : Res α := (p data).map (·.1)

theorem runChunk_eq_ok {α} {p : Rd α} {data : Bytes} {a : α} (h : runChunk p data = .ok a) :
    ∃ r, p data = .ok (a, r) := by
  obtain ⟨⟨a', r⟩, h1, rfl⟩ := Res.map_eq_ok h
  exact ⟨r, h1⟩

def ParseInfo.addCel (pi : ParseInfo) (frame : Nat) (cel : RawCel RawPixels) : Res ParseInfo :=
  match pi.cels[frame]? with
  | none => .err .invalid          -- check_valid_frame_id
  | some row =>
      let layer := cel.data.layerIndex.toNat
      if (FrameCels.get? layer row).isSome then .err .invalid else
      .ok { pi with cels := pi.cels.set! frame (FrameCels.insert layer cel row),
                    ctx := some (.cel frame layer) }

def setUD {α} (arr : Array α) (i : Nat) (f : α → α) : Option (Array α) :=
  match arr[i]? with
  | none => none
  | some a => some (arr.set! i (f a))

theorem setUD_eq_some {α} {arr arr' : Array α} {i : Nat} {f : α → α} :
    setUD arr i f = some arr' ↔ ∃ a, arr[i]? = some a ∧ arr' = arr.set! i (f a) := by
  unfold setUD
  cases arr[i]? with
  | none => simp
  | some a => simp [eq_comm]

def ParseInfo.addUserData (pi : ParseInfo) (ud : UserData) : Res ParseInfo :=
  match pi.ctx with
  | none => .err .invalid
  | some (.cel f l) =>
      match pi.cels[f]? with
      | none => .panic .index       -- `self.data[frame]`; the context always holds a valid frame
      | some row =>
          match FrameCels.get? l row with
          | none => .err .internal
          | some _ =>
              let row' := FrameCels.modify l (fun c => { c with userData := some ud }) row
              .ok { pi with cels := pi.cels.set! f row' }
  | some (.layer i) =>
      match setUD pi.layers i (fun l => { l with userData := some ud }) with
      | none => .err .internal
      | some ls => .ok { pi with layers := ls }
  | some .oldPalette => .ok { pi with spriteUserData := some ud }
  | some (.tag i) =>
      match pi.tags with
      | none => .err .internal
      | some tags =>
          match setUD tags i (fun t => { t with userData := some ud }) with
          | none => .err .internal
          | some ts => .ok { pi with tags := some ts, ctx := some (.tag (i + 1)) }
  | some (.slice i) =>
      match setUD pi.slices i (fun s => { s with userData := some ud }) with
      | none => .err .internal
      | some ss => .ok { pi with slices := ss }

def addExtFiles (m : List (Nat × ExternalFile)) : List ExternalFile → List (Nat × ExternalFile)
  | [] => m
  | f :: t => addExtFiles (assocInsert f.id.toNat f m) t

/-- one arm of the `match chunk_type` in `parse_frame` -/
def processChunk (inflate : Inflate) (m : Profile) (fmt : PixelFormat) (frame : Nat)
    (pi : ParseInfo) (c : Chunk) : Res ParseInfo :=
  match c.ty with
  | .colorProfile => do
      runChunk parseColorProfileChunk c.data
      pure pi
  | .palette => do
      let p ← runChunk parsePaletteChunk c.data
      pure { pi with palette := some p }
  | .layer => do
      let l ← runChunk parseLayerChunk c.data
      pure { pi with layers := pi.layers.push l, ctx := some (.layer pi.layers.size) }
  | .cel => do
      let cel ← runChunk (parseCelChunk inflate fmt) c.data
      pi.addCel frame cel
  | .externalFiles => do
      let fs ← runChunk parseExternalFilesChunk c.data
      pure { pi with extFiles := addExtFiles pi.extFiles fs }
  | .tags => do
      let ts ← runChunk parseTagsChunk c.data
      if frame == 0 then pure { pi with tags := some ts.toArray, ctx := some (.tag 0) }
      else pure pi
  | .slice => do
      let s ← runChunk parseSliceChunk c.data
      pure { pi with slices := pi.slices.push s, ctx := some (.slice pi.slices.size) }
  | .userData => do
      let ud ← runChunk parseUserDataChunk c.data
      pi.addUserData ud
  | .oldPalette04 =>
      let pi' := { pi with ctx := some .oldPalette }
      if pi.palette.isNone then do
        let p ← runChunk (parseOldPaletteChunk m false) c.data
        pure { pi' with palette := some p }
      else pure pi'
  | .oldPalette11 =>
      let pi' := { pi with ctx := some .oldPalette }
      if pi.palette.isNone then do
        let p ← runChunk (parseOldPaletteChunk m true) c.data
        pure { pi' with palette := some p }
      else pure pi'
  | .tileset => do
      let t ← runChunk (parseTilesetChunk inflate fmt) c.data
      pure { pi with tilesets := assocInsert t.id.toNat t pi.tilesets }
  | .celExtra | .mask | .path => pure pi

/-- `processChunk` with the growing arrays (`layers`, `slices`) used linearly: the compiled
    `processChunk` pushes onto an array that the old state still references, which copies the
    array for every layer chunk (quadratic for sprites with tens of thousands of layers).
    Installed for compiled code by the `csimp` equation below; no theorem mentions it. -/
def processChunkFast (inflate : Inflate) (m : Profile) (fmt : PixelFormat) (frame : Nat)
    (pi : ParseInfo) (c : Chunk) : Res ParseInfo :=
  match c.ty with
  | .layer =>
      match runChunk parseLayerChunk c.data with
      | .ok l =>
          let n := pi.layers.size
          let ls := pi.layers
          let pi := { pi with layers := #[] }
          .ok { pi with layers := ls.push l, ctx := some (.layer n) }
      | .err e => .err e
      | .panic q => .panic q
  | .slice =>
      match runChunk parseSliceChunk c.data with
      | .ok s =>
          let n := pi.slices.size
          let ss := pi.slices
          let pi := { pi with slices := #[] }
          .ok { pi with slices := ss.push s, ctx := some (.slice n) }
      | .err e => .err e
      | .panic q => .panic q
  | _ => processChunk inflate m fmt frame pi c

@[csimp] theorem processChunk_eq_fast : @processChunk = @processChunkFast := by
  funext inflate m fmt frame pi c
  unfold processChunkFast
  split
  · rename_i h
    unfold processChunk
    simp only [h]
    cases runChunk parseLayerChunk c.data <;> rfl
  · rename_i h
    unfold processChunk
    simp only [h]
    cases runChunk parseSliceChunk c.data <;> rfl
  · rfl

def processChunks (inflate : Inflate) (m : Profile) (fmt : PixelFormat) (frame : Nat) :
    ParseInfo → List Chunk → Res ParseInfo
  | pi, [] => .ok pi
  | pi, c :: cs =>
      match processChunk inflate m fmt frame pi c with
      | .ok pi' => processChunks inflate m fmt frame pi' cs
      | .err e => .err e
      | .panic p => .panic p

theorem processChunks_cons (inflate : Inflate) (m : Profile) (fmt : PixelFormat) (frame : Nat)
    (pi : ParseInfo) (c : Chunk) (cs : List Chunk) :
    processChunks inflate m fmt frame pi (c :: cs) =
      (processChunk inflate m fmt frame pi c >>= fun pi' =>
        processChunks inflate m fmt frame pi' cs) := by
  rw [processChunks]
  cases processChunk inflate m fmt frame pi c <;> rfl

theorem processChunks_cons_eq_ok {inflate : Inflate} {m : Profile} {fmt : PixelFormat} {frame : Nat}
    {pi pi' : ParseInfo} {c : Chunk} {cs : List Chunk}
    (h : processChunks inflate m fmt frame pi (c :: cs) = .ok pi') :
    ∃ pi1, processChunk inflate m fmt frame pi c = .ok pi1 ∧
      processChunks inflate m fmt frame pi1 cs = .ok pi' := by
  rw [processChunks_cons] at h
  exact Res.bind_eq_ok h

section top2
variable {σ : Type} (S : Src σ)

/-- `parse_frame` -/
def parseFrame (inflate : Inflate) (m : Profile) (fmt : PixelFormat) (frame : Nat)
    (pi : ParseInfo) : RdS σ ParseInfo := do
  let h ← readFrameHeader S
  -- `parse_info.frame_times[frame_id] = ..`: frame_id < num_frames = len, never out of range
  let pi1 := { pi with frameTimes := pi.frameTimes.set! frame h.duration }
  let chunks ← readChunks S h.numChunks ((h.numBytes.toNat : Int) - 16)
  RdS.lift (processChunks inflate m fmt frame pi1 chunks)

/-- frames `frame, frame+1, …` (`n` of them) -/
def parseFrames (inflate : Inflate) (m : Profile) (fmt : PixelFormat) :
    Nat → Nat → ParseInfo → RdS σ ParseInfo
  | 0, _, pi => pure pi
  | n + 1, frame, pi => do
      let pi' ← parseFrame S inflate m fmt frame pi
      parseFrames inflate m fmt n (frame + 1) pi'

end top2

theorem parseFrame_eq_ok {σ : Type} {S : Src σ} {inflate : Inflate} {m : Profile}
    {fmt : PixelFormat} {frame : Nat} {pi pi' : ParseInfo} {s s' : σ}
    (h : parseFrame S inflate m fmt frame pi s = .ok (pi', s')) :
    ∃ fh s1 cs, readFrameHeader S s = .ok (fh, s1) ∧
      readChunks S fh.numChunks ((fh.numBytes.toNat : Int) - 16) s1 = .ok (cs, s') ∧
      processChunks inflate m fmt frame
        { pi with frameTimes := pi.frameTimes.set! frame fh.duration } cs = .ok pi' := by
  unfold parseFrame at h
  obtain ⟨fh, s1, h1, h2⟩ := RdS.bind_eq_ok h
  obtain ⟨cs, s2, h3, h4⟩ := RdS.bind_eq_ok h2
  obtain ⟨h5, rfl⟩ := RdS.lift_eq_ok h4
  exact ⟨fh, s1, cs, h1, h3, h5⟩

theorem parseFrames_succ_eq_ok {σ : Type} {S : Src σ} {inflate : Inflate} {m : Profile}
    {fmt : PixelFormat} {n frame : Nat} {pi pi' : ParseInfo} {s s' : σ}
    (h : parseFrames S inflate m fmt (n + 1) frame pi s = .ok (pi', s')) :
    ∃ pi1 s1, parseFrame S inflate m fmt frame pi s = .ok (pi1, s1) ∧
      parseFrames S inflate m fmt n (frame + 1) pi1 s1 = .ok (pi', s') := by
  unfold parseFrames at h
  exact RdS.bind_eq_ok h

/-! ### validation -/

/-- `compute_parents` (after the fix: an `Err` instead of the underflow / `assert!`). -/
def findParent (levels : Array UInt16) (my : UInt16) : Nat → Res Nat
  | 0 => .err .invalid
  | cand + 1 =>
      match levels[cand]? with
      | none => .panic .index
      | some l => if l < my then .ok cand else findParent levels my cand

def computeParentsFrom (levels : Array UInt16) : Nat → Nat → Res (List (Option Nat))
  | 0, _ => .ok []
  | n + 1, id =>
      match levels[id]? with
      | none => .panic .index
      | some my =>
          if my.toNat == 0 then
            (computeParentsFrom levels n (id + 1)).map (none :: ·)
          else
            match findParent levels my id with
            | .ok p => (computeParentsFrom levels n (id + 1)).map (some p :: ·)
            | .err e => .err e
            | .panic s => .panic s

def computeParents (layers : Array LayerData) : Res (Array (Option Nat)) :=
  (computeParentsFrom (layers.map (·.childLevel)) layers.size 0).map List.toArray

/-- `ColorPalette::validate_indexed_pixels` -/
def validateIndexed (p : Palette) (px : Array UInt8) : Bool :=
  px.all (fun i => (p.color i.toNat).isSome)

/-- `RawPixels::validate` -/
def validatePixels (palette : Option Palette) (fmt : PixelFormat) (background : Bool) :
    RawPixels → Res Pixels
  | .rgba px => .ok (.rgba px)
  | .gray px => .ok (.gray px)
  | .indexed px =>
      match palette with
      | none => .err .invalid
      | some p =>
          if !validateIndexed p px then .err .invalid else
          match fmt with
          | .indexed tci => .ok (.indexed tci background px)
          | _ => .err .invalid

/-- `TilesetsById::validate` (the map's iteration order only selects which error is reported) -/
def validateTilesets (palette : Option Palette) (fmt : PixelFormat) :
    List (Nat × Tileset RawPixels) → Res (List (Nat × Tileset Pixels))
  | [] => .ok []
  | (k, t) :: rest =>
      match t.pixels with
      | none => .err .unsupported
      | some raw =>
          match validatePixels palette fmt false raw with
          | .ok px =>
              (validateTilesets palette fmt rest).map
                (fun r => (k, { id := t.id, emptyTileIsZero := t.emptyTileIsZero,
                                tileCount := t.tileCount, tileW := t.tileW, tileH := t.tileH,
                                baseIndex := t.baseIndex, name := t.name, extFile := t.extFile,
                                pixels := some px }) :: r)
          | .err e => .err e
          | .panic s => .panic s

/-- `LayersData::validate` -/
def validateLayers {P} (tilesets : List (Nat × Tileset P)) (layers : Array LayerData) : Bool :=
  layers.all (fun l => match l.layerType with
    | .tilemap id => (assocGet? id.toNat tilesets).isSome
    | _ => true)

/-- is `(frame, layer)` a raw cel of the unvalidated table (`is_linkable_cel`) -/
def isLinkable (numFrames : Nat) (cels : Array (FrameCels RawPixels)) (frame layer : Nat) : Bool :=
  frame < numFrames &&
    match cels[frame]? with
    | none => false
    | some row => match FrameCels.get? layer row with
        | none => false
        | some c => c.content.isRaw

/-- `RawCel::validate` (the caller has checked `layer < layers.size`) -/
def validateCel (layers : Array LayerData) (tilesets : List (Nat × Tileset Pixels))
    (palette : Option Palette) (fmt : PixelFormat) (numFrames : Nat)
    (cels : Array (FrameCels RawPixels)) (layer : Nat) (c : RawCel RawPixels) :
    Res (RawCel Pixels) :=
  match layers[layer]? with
  | none => .panic .index
  | some ld =>
      match c.content with
      | .raw w h px =>
          match validatePixels palette fmt ld.isBackground px with
          | .ok px' => .ok { data := c.data, content := .raw w h px', userData := c.userData }
          | .err e => .err e
          | .panic s => .panic s
      | .linked f =>
          if isLinkable numFrames cels f.toNat layer then
            .ok { data := c.data, content := .linked f, userData := c.userData }
          else .err .invalid
      | .tilemap t =>
          match ld.layerType with
          | .tilemap tsid =>
              let count := match assocGet? tsid.toNat tilesets with
                | some ts => ts.tileCount.toNat
                | none => 0
              if t.tiles.all (fun id => id.toNat < count) then
                .ok { data := c.data, content := .tilemap t, userData := c.userData }
              else .err .invalid
          | _ => .err .invalid

def validateRow (layers : Array LayerData) (tilesets : List (Nat × Tileset Pixels))
    (palette : Option Palette) (fmt : PixelFormat) (numFrames : Nat)
    (cels : Array (FrameCels RawPixels)) : FrameCels RawPixels → Res (FrameCels Pixels)
  | [] => .ok []
  | (layer, c) :: rest =>
      if layer ≥ layers.size then .err .invalid else
      match validateCel layers tilesets palette fmt numFrames cels layer c with
      | .ok c' =>
          (validateRow layers tilesets palette fmt numFrames cels rest).map ((layer, c') :: ·)
      | .err e => .err e
      | .panic s => .panic s

def validateRows (layers : Array LayerData) (tilesets : List (Nat × Tileset Pixels))
    (palette : Option Palette) (fmt : PixelFormat) (numFrames : Nat)
    (cels : Array (FrameCels RawPixels)) : List (FrameCels RawPixels) → Res (List (FrameCels Pixels))
  | [] => .ok []
  | row :: rest =>
      match validateRow layers tilesets palette fmt numFrames cels row with
      | .ok r => (validateRows layers tilesets palette fmt numFrames cels rest).map (r :: ·)
      | .err e => .err e
      | .panic s => .panic s

/-- `ParseInfo::validate` followed by the construction of `AsepriteFile`. -/
def validate (h : Header) (fmt : PixelFormat) (pi : ParseInfo) : Res Sprite := do
  let parents ← computeParents pi.layers
  let tilesets ← validateTilesets pi.palette fmt pi.tilesets
  if !validateLayers tilesets pi.layers then .err .invalid else
  let rows ← validateRows pi.layers tilesets pi.palette fmt h.numFrames.toNat pi.cels pi.cels.toList
  pure { width := h.width, height := h.height, numFrames := h.numFrames, format := fmt,
         palette := pi.palette, layers := pi.layers, parents := parents,
         frameTimes := pi.frameTimes, tags := pi.tags.getD #[], cels := rows.toArray,
         extFiles := pi.extFiles, tilesets := tilesets,
         spriteUserData := pi.spriteUserData, slices := pi.slices }

theorem validate_eq_ok {h : Header} {fmt : PixelFormat} {pi : ParseInfo} {s : Sprite}
    (hv : validate h fmt pi = .ok s) :
    ∃ parents tilesets rows,
      computeParents pi.layers = .ok parents ∧
      validateTilesets pi.palette fmt pi.tilesets = .ok tilesets ∧
      validateLayers tilesets pi.layers = true ∧
      validateRows pi.layers tilesets pi.palette fmt h.numFrames.toNat pi.cels pi.cels.toList
        = .ok rows ∧
      s = { width := h.width, height := h.height, numFrames := h.numFrames, format := fmt,
            palette := pi.palette, layers := pi.layers, parents := parents,
            frameTimes := pi.frameTimes, tags := pi.tags.getD #[], cels := rows.toArray,
            extFiles := pi.extFiles, tilesets := tilesets,
            spriteUserData := pi.spriteUserData, slices := pi.slices } := by
  unfold validate at hv
  obtain ⟨parents, hpar, hv⟩ := Res.bind_eq_ok hv
  obtain ⟨tilesets, hts, hv⟩ := Res.bind_eq_ok hv
  split at hv
  · cases hv
  · rename_i hlay
    obtain ⟨rows, hrows, hv⟩ := Res.bind_eq_ok hv
    cases hv
    exact ⟨parents, tilesets, rows, hpar, hts, by simpa using hlay, hrows, rfl⟩

/-! ### `read_aseprite` -/

def parseFile {σ : Type} (S : Src σ) (inflate : Inflate) (m : Profile) : RdS σ Sprite := do
  let h ← readHeader S
  if !pixelRatioOk h.pixelW h.pixelH then RdS.fail .unsupported else
  let fmt ← RdS.lift (parsePixelFormat h.colorDepth h.tci)
  let pi ← parseFrames S inflate m fmt h.numFrames.toNat 0
              (ParseInfo.new h.numFrames.toNat h.defaultTime)
  RdS.lift (validate h fmt pi)

theorem parseFile_eq_ok {σ : Type} {S : Src σ} {inflate : Inflate} {m : Profile} {st st' : σ}
    {spr : Sprite} (h : parseFile S inflate m st = .ok (spr, st')) :
    ∃ hd s1 fmt pi, readHeader S st = .ok (hd, s1) ∧ pixelRatioOk hd.pixelW hd.pixelH = true ∧
      parsePixelFormat hd.colorDepth hd.tci = .ok fmt ∧
      parseFrames S inflate m fmt hd.numFrames.toNat 0
        (ParseInfo.new hd.numFrames.toNat hd.defaultTime) s1 = .ok (pi, st') ∧
      validate hd fmt pi = .ok spr := by
  unfold parseFile at h
  obtain ⟨hd, s1, h1, h2⟩ := RdS.bind_eq_ok h
  cases hpr : pixelRatioOk hd.pixelW hd.pixelH
  · simp only [hpr, Bool.not_false, if_true] at h2; cases h2
  · simp only [hpr, Bool.not_true, Bool.false_eq_true, if_false] at h2
    obtain ⟨fmt, s2, h3, h4⟩ := RdS.bind_eq_ok h2
    obtain ⟨hf, rfl⟩ := RdS.lift_eq_ok h3
    obtain ⟨pi, s3, h5, h6⟩ := RdS.bind_eq_ok h4
    obtain ⟨h7, rfl⟩ := RdS.lift_eq_ok h6
    exact ⟨hd, _, fmt, pi, h1, hpr, hf, h5, h7⟩

/-- `AsepriteFile::read` on an in-memory byte string. -/
def parse (inflate : Inflate) (m : Profile) (bs : Bytes) : Res Sprite :=
  (parseFile bytesSrc inflate m bs).map (·.1)

theorem parse_eq_ok {inflate : Inflate} {m : Profile} {bs : Bytes} {s : Sprite}
    (h : parse inflate m bs = .ok s) : ∃ rest, parseFile bytesSrc inflate m bs = .ok (s, rest) := by
  obtain ⟨⟨s', rest⟩, hp, rfl⟩ := Res.map_eq_ok h
  exact ⟨rest, hp⟩

end Ase
