/-
  Result type of the model: every Rust function that can return `Err` or panic is
  modelled by a total function into `Res`.  A Rust panic site is an explicit value
  (`Res.panic site`), never an omission.
-/
namespace Ase

/-- `std::io::ErrorKind` as far as the properties distinguish it. `other n` is the
    n-th kind of the harness' kind table (C14 injects such errors). -/
inductive IoKind where
  | unexpectedEof
  | other (code : Nat)
  deriving DecidableEq, Repr, Inhabited

/-- `AsepriteParseError` variants (messages are not modelled). -/
inductive Err where
  | invalid
  | unsupported
  | internal
  | io (k : IoKind)
  deriving DecidableEq, Repr, Inhabited

/-- Kinds of Rust panic sites. -/
inductive Site where
  | index        -- slice / Vec index out of bounds
  | sliceRange   -- `&v[a..b]` out of range
  | assertFail   -- `assert!`
  | debugAssert  -- `debug_assert!` (only with debug assertions on)
  | overflow     -- arithmetic overflow (only with overflow checks on)
  | divZero
  | unwrapNone   -- `unwrap` / `expect` on `None`, explicit `panic!`
  | fromRawNone  -- `RgbaImage::from_raw(..)` returned `None` and was unwrapped
  deriving DecidableEq, Repr, Inhabited

inductive Res (α : Type) where
  | ok (a : α)
  | err (e : Err)
  | panic (s : Site)
  deriving Repr, Inhabited, DecidableEq

namespace Res

@[inline] def bind {α β} (x : Res α) (f : α → Res β) : Res β :=
  match x with
  | ok a => f a
  | err e => err e
  | panic s => panic s

@[inline] def map {α β} (f : α → β) (x : Res α) : Res β :=
  match x with
  | ok a => ok (f a)
  | err e => err e
  | panic s => panic s

instance : Monad Res where
  pure := ok
  bind := bind

def isOk {α} : Res α → Bool
  | ok _ => true
  | _ => false

def isPanic {α} : Res α → Bool
  | panic _ => true
  | _ => false

@[simp] theorem bind_ok {α β} (a : α) (f : α → Res β) : (ok a >>= f) = f a := rfl
@[simp] theorem bind_err {α β} (e : Err) (f : α → Res β) : (err e >>= f) = err e := rfl
@[simp] theorem bind_panic {α β} (s : Site) (f : α → Res β) : (panic s >>= f) = panic s := rfl
@[simp] theorem pure_eq {α} (a : α) : (pure a : Res α) = ok a := rfl
@[simp] theorem bind_ok' {α β} (a : α) (f : α → Res β) : (ok a).bind f = f a := rfl
@[simp] theorem bind_err' {α β} (e : Err) (f : α → Res β) : (err e : Res α).bind f = err e := rfl
@[simp] theorem bind_panic' {α β} (s : Site) (f : α → Res β) : (panic s : Res α).bind f = panic s := rfl
@[simp] theorem map_ok {α β} (f : α → β) (a : α) : (ok a).map f = ok (f a) := rfl
@[simp] theorem map_err {α β} (f : α → β) (e : Err) : (err e : Res α).map f = err e := rfl
@[simp] theorem map_panic {α β} (f : α → β) (s : Site) : (panic s : Res α).map f = panic s := rfl

theorem bind_assoc {α β γ} (r : Res α) (f : α → Res β) (g : β → Res γ) :
    (r >>= f >>= g) = (r >>= fun a => f a >>= g) := by
  cases r <;> rfl

theorem bind_ok_right {α} (r : Res α) : (r >>= ok) = r := by
  cases r <;> rfl

theorem map_bind {α β γ} (r : Res α) (f : α → β) (g : β → Res γ) :
    (r.map f >>= g) = (r >>= fun a => g (f a)) := by
  cases r <;> rfl

theorem map_eq_bind {α β} (f : α → β) (r : Res α) : r.map f = (r >>= fun a => ok (f a)) := by
  cases r <;> rfl

theorem bind_congr {α β} {x : Res α} {f g : α → Res β} (h : ∀ a, x = ok a → f a = g a) :
    x >>= f = x >>= g := by
  cases x with
  | ok a => exact h a rfl
  | err e => rfl
  | panic s => rfl

theorem bind_eq_ok {α β} {x : Res α} {f : α → Res β} {b : β} (h : (x >>= f) = ok b) :
    ∃ a, x = ok a ∧ f a = ok b := by
  cases x with
  | ok a => exact ⟨a, rfl, h⟩
  | err e => cases h
  | panic s => cases h

theorem map_eq_ok {α β} {x : Res α} {f : α → β} {b : β} (h : x.map f = ok b) :
    ∃ a, x = ok a ∧ f a = b := by
  cases x with
  | ok a => exact ⟨a, rfl, ok.inj h⟩
  | err e => cases h
  | panic s => cases h

/-- `x` is not a panic. -/
def NoPanic {α} (x : Res α) : Prop := ∀ s, x ≠ panic s

theorem NoPanic.bind {α β} {x : Res α} {f : α → Res β}
    (hx : NoPanic x) (hf : ∀ a, x = ok a → NoPanic (f a)) : NoPanic (x >>= f) := by
  cases x with
  | ok a => exact hf a rfl
  | err e => intro s h; cases h
  | panic s => exact absurd rfl (hx s)

theorem noPanic_ok {α} (a : α) : NoPanic (ok a) := by intro s h; cases h
theorem noPanic_err {α} (e : Err) : NoPanic (err e : Res α) := by intro s h; cases h

end Res

/-- Build profile: Rust's `overflow-checks` and `debug-assertions` switches. -/
structure Profile where
  overflowChecks : Bool
  debugAsserts : Bool
  deriving DecidableEq, Repr, Inhabited

def Profile.release : Profile := ⟨false, false⟩
def Profile.checked : Profile := ⟨true, true⟩

/-- `a + b` in `u32`: panics with overflow checks, wraps without. -/
def u32Add (m : Profile) (a b : Nat) : Res Nat :=
  if a + b < 4294967296 then .ok (a + b)
  else if m.overflowChecks then .panic .overflow else .ok ((a + b) % 4294967296)

def u32Mul (m : Profile) (a b : Nat) : Res Nat :=
  if a * b < 4294967296 then .ok (a * b)
  else if m.overflowChecks then .panic .overflow else .ok ((a * b) % 4294967296)

theorem u32Add_ok (m : Profile) {a b : Nat} (h : a + b < 4294967296) : u32Add m a b = .ok (a + b) :=
  if_pos h

end Ase
