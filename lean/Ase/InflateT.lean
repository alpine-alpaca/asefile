import Ase.Chunks
/-
  A total, kernel-reducible zlib (RFC 1950/1951) inflater: the driver's instance of the model's
  `inflate` parameter.  It follows zlib's `contrib/puff/puff.c`, written as plain structural
  recursion with explicit state passing: the input is a `ByteArray` plus a bit position, the
  output a `ByteArray` accumulator.  The three input-bounded loops of `puff` (`codes`, the
  code-length reader, `blocks`) take a fuel argument; `AseProofs/Lemmas/InflateT.lean` proves
  that the fuel handed out here is never exhausted (`ZErr.fuel` is never returned) and the
  1032:1 expansion bound, `AseProofs/Lemmas/InflateStored.lean` the round trip of stored-block
  streams.

  One deliberate deviation from zlib, taken from the real decoder: flate2's streaming decoder
  (miniz_oxide) inflates into a zero-initialised 32 KiB circular dictionary and rejects only
  distances above 32768 (which cannot be encoded), so a match distance reaching before the
  start of the output is not an error: such bytes read as 0.

  Huffman tables are built from lists by counting and filtering (`construct`), the code
  lengths are accumulated in a reversed list.  What ties this decoder to flate2 is the INFLATE
  correspondence of the check run (valid streams of every level, truncations, corrupted
  streams); an earlier monadic port of puff with `partial` loops, which it replaced, agreed
  with it on 2096 test streams.
-/
namespace Ase.ZlibT

inductive ZErr where
  | eof        -- ran out of input (flate2: UnexpectedEof)
  | corrupt    -- anything else (flate2: InvalidInput "corrupt deflate stream")
  | fuel       -- a fuel argument ran out (proved unreachable from `inflateZlib`)
  deriving Repr, DecidableEq

/-- result of a step of the bit reader: a value and the new bit position, or an error -/
inductive R (α : Type) where
  | ok (a : α) (pos : Nat)
  | err (e : ZErr)

@[inline] def byteAt (data : ByteArray) (i : Nat) : Nat := (data.get! i).toNat

@[inline] def getBit (data : ByteArray) (pos : Nat) : R Nat :=
  if pos / 8 < data.size then .ok ((byteAt data (pos / 8) >>> (pos % 8)) % 2) (pos + 1)
  else .err .eof

/-- `n` bits, least significant first -/
def getBits (data : ByteArray) : Nat → Nat → R Nat
  | 0, pos => .ok 0 pos
  | n + 1, pos =>
      match getBit data pos with
      | .err e => .err e
      | .ok b pos1 =>
          match getBits data n pos1 with
          | .err e => .err e
          | .ok rest pos2 => .ok (b + 2 * rest) pos2

structure Huff where
  count : Array Nat     -- number of codes of each length 0..15
  symbol : Array Nat    -- symbols ordered by code

/-- `left` after lengths `len .. len+n-1` (and whether it ever went negative) -/
def leftLoop (count : Array Nat) : Nat → Nat → Int → Bool → Int × Bool
  | 0, _, left, bad => (left, bad)
  | n + 1, len, left, bad =>
      let left' := left * 2 - (count[len]! : Int)
      leftLoop count n (len + 1) left' (bad || decide (left' < 0))

/-- the positions `i, i+1, ..` of the entries equal to `len` -/
def symsOfLen (len : Nat) : List Nat → Nat → List Nat
  | [], _ => []
  | l :: t, i => if l == len then i :: symsOfLen len t (i + 1) else symsOfLen len t (i + 1)

/-- returns the table and `left` (< 0 over-subscribed, > 0 incomplete).
    `count[len]` is the number of symbols of code length `len`; `symbol` lists the coded
    symbols by code length, in symbol order within one length (canonical Huffman order). -/
def construct (ls : List Nat) : Huff × Int :=
  let count := ((List.range 16).map (fun len => ls.countP (· == len))).toArray
  let (left, bad) := leftLoop count 15 1 1 false
  let symbol := ((List.range' 1 15).flatMap (fun len => symsOfLen len ls 0)).toArray
  (⟨count, symbol⟩, if bad then -1 else left)

/-- canonical Huffman decoding, one bit per round, code lengths `len .. len+n-1` -/
def decodeLoop (data : ByteArray) (h : Huff) : Nat → Nat → Nat → Nat → Nat → Nat → R Nat
  | 0, _, _, _, _, _ => .err .corrupt
  | n + 1, len, code, first, index, pos =>
      match getBit data pos with
      | .err e => .err e
      | .ok b pos1 =>
          let code := code + b
          let cnt := h.count[len]!
          if code < first + cnt then .ok h.symbol[index + (code - first)]! pos1
          else decodeLoop data h n (len + 1) (code * 2) ((first + cnt) * 2) (index + cnt) pos1

def decodeSym (data : ByteArray) (h : Huff) (pos : Nat) : R Nat :=
  decodeLoop data h 15 1 0 0 0 pos

def lbase : Array Nat := #[3,4,5,6,7,8,9,10,11,13,15,17,19,23,27,31,35,43,51,59,67,83,99,115,131,163,195,227,258]
def lext : Array Nat := #[0,0,0,0,0,0,0,0,1,1,1,1,2,2,2,2,3,3,3,3,4,4,4,4,5,5,5,5,0]
def dbase : Array Nat := #[1,2,3,4,5,7,9,13,17,25,33,49,65,97,129,193,257,385,513,769,1025,1537,2049,3073,4097,6145,8193,12289,16385,24577]
def dext : Array Nat := #[0,0,0,0,1,1,2,2,3,3,4,4,5,5,6,6,7,7,8,8,9,9,10,10,11,11,12,12,13,13]

/-- append `n` bytes, each copied from `dist` bytes back (byte by byte, so the copy may
    overlap its own output).  A distance reaching before the start of the output is not an
    error: the streaming decoder copies from a zero-initialised window, such bytes read as 0. -/
def copyMatch (dist : Nat) : Nat → ByteArray → ByteArray
  | 0, out => out
  | n + 1, out =>
      copyMatch dist n (out.push (if out.size ≥ dist then out.get! (out.size - dist) else 0))

/-- outcome of one round of a fuelled loop: go on, finished, or error -/
inductive Step (α : Type) where
  | more (a : α) (pos : Nat)
  | done (a : α) (pos : Nat)
  | err (e : ZErr)

/-- one literal, end-of-block symbol or match of a compressed block -/
def codeStep (data : ByteArray) (lencode distcode : Huff) (out : ByteArray) (pos : Nat) :
    Step ByteArray :=
  match decodeSym data lencode pos with
  | .err e => .err e
  | .ok sym pos1 =>
      if sym < 256 then .more (out.push (UInt8.ofNat sym)) pos1
      else if sym == 256 then .done out pos1
      else
        let si := sym - 257
        if si ≥ 29 then .err .corrupt else
        match getBits data lext[si]! pos1 with
        | .err e => .err e
        | .ok ext pos2 =>
            match decodeSym data distcode pos2 with
            | .err e => .err e
            | .ok ds pos3 =>
                if ds ≥ 30 then .err .corrupt else
                match getBits data dext[ds]! pos3 with
                | .err e => .err e
                | .ok dx pos4 =>
                    .more (copyMatch (dbase[ds]! + dx) (lbase[si]! + ext) out) pos4

/-- the literal/length/distance loop of one compressed block -/
def codes (data : ByteArray) (lencode distcode : Huff) : Nat → ByteArray → Nat → R ByteArray
  | 0, _, _ => .err .fuel
  | fuel + 1, out, pos =>
      match codeStep data lencode distcode out pos with
      | .err e => .err e
      | .done out' pos' => .ok out' pos'
      | .more out' pos' => codes data lencode distcode fuel out' pos'

def fixedTables : Huff × Huff :=
  let lens := List.replicate 144 8 ++ List.replicate 112 9 ++ List.replicate 24 7 ++ List.replicate 8 8
  ((construct lens).1, (construct (List.replicate 30 5)).1)

def clOrder : Array Nat := #[16,17,18,0,8,7,9,6,10,5,11,4,12,3,13,2,14,1,15]

/-- the `n` three-bit code-length code lengths, entries `i ..` of `clOrder` -/
def readCl (data : ByteArray) : Nat → Nat → Array Nat → Nat → R (Array Nat)
  | 0, _, cl, pos => .ok cl pos
  | n + 1, i, cl, pos =>
      match getBits data 3 pos with
      | .err e => .err e
      | .ok v pos1 => readCl data n (i + 1) (cl.set! clOrder[i]! v) pos1

/-- the code lengths read so far: their number and the entries, last one first -/
structure Lens where
  n : Nat
  rev : List Nat

/-- one symbol of the run-length coded code lengths (`acc.n < total`) -/
def lenStep (data : ByteArray) (lencode : Huff) (total : Nat) (acc : Lens) (pos : Nat) : R Lens :=
  match decodeSym data lencode pos with
  | .err e => .err e
  | .ok sym pos1 =>
      if sym < 16 then .ok ⟨acc.n + 1, sym :: acc.rev⟩ pos1
      else if sym == 16 then
        if acc.n == 0 then .err .corrupt else
        match getBits data 2 pos1 with
        | .err e => .err e
        | .ok x pos2 =>
            if acc.n + (3 + x) > total then .err .corrupt
            else .ok ⟨acc.n + (3 + x), List.replicate (3 + x) (acc.rev.headD 0) ++ acc.rev⟩ pos2
      else if sym == 17 then
        match getBits data 3 pos1 with
        | .err e => .err e
        | .ok x pos2 =>
            if acc.n + (3 + x) > total then .err .corrupt
            else .ok ⟨acc.n + (3 + x), List.replicate (3 + x) 0 ++ acc.rev⟩ pos2
      else
        match getBits data 7 pos1 with
        | .err e => .err e
        | .ok x pos2 =>
            if acc.n + (11 + x) > total then .err .corrupt
            else .ok ⟨acc.n + (11 + x), List.replicate (11 + x) 0 ++ acc.rev⟩ pos2

/-- the run-length coded literal/length and distance code lengths; every round adds at least
    one entry, so `total - acc.n` rounds suffice -/
def readLengths (data : ByteArray) (lencode : Huff) (total : Nat) : Nat → Lens → Nat → R Lens
  | 0, acc, pos => if acc.n ≥ total then .ok acc pos else .err .fuel
  | fuel + 1, acc, pos =>
      if acc.n ≥ total then .ok acc pos else
      match lenStep data lencode total acc pos with
      | .err e => .err e
      | .ok acc' pos' => readLengths data lencode total fuel acc' pos'

def dynamicBlock (data : ByteArray) (fuel : Nat) (out : ByteArray) (pos : Nat) : R ByteArray :=
  match getBits data 5 pos with
  | .err e => .err e
  | .ok a pos1 =>
  match getBits data 5 pos1 with
  | .err e => .err e
  | .ok b pos2 =>
  match getBits data 4 pos2 with
  | .err e => .err e
  | .ok c pos3 =>
  let nlen := a + 257
  let ndist := b + 1
  let ncode := c + 4
  if nlen > 286 || ndist > 30 then .err .corrupt else
  match readCl data ncode 0 (Array.replicate 19 0) pos3 with
  | .err e => .err e
  | .ok cl pos4 =>
  let (lencode, left) := construct cl.toList
  if left != 0 then .err .corrupt else
  match readLengths data lencode (nlen + ndist) (nlen + ndist) ⟨0, []⟩ pos4 with
  | .err e => .err e
  | .ok lens pos5 =>
  let lengths := lens.rev.reverse
  if lengths.getD 256 0 == 0 then .err .corrupt else
  let (lc, l1) := construct (lengths.take nlen)
  if l1 != 0 && (l1 < 0 || nlen != lc.count[0]! + lc.count[1]!) then .err .corrupt else
  let (dc, l2) := construct (lengths.drop nlen)
  if l2 != 0 && (l2 < 0 || ndist != dc.count[0]! + dc.count[1]!) then .err .corrupt else
  codes data lc dc fuel out pos5

def storedBlock (data : ByteArray) (out : ByteArray) (pos : Nat) : R ByteArray :=
  let p := (pos + 7) / 8
  if p + 4 > data.size then .err .eof else
  let len := byteAt data p + 256 * byteAt data (p + 1)
  let nlen := byteAt data (p + 2) + 256 * byteAt data (p + 3)
  if len + nlen != 65535 then .err .corrupt else
  if p + 4 + len > data.size then .err .eof else
  .ok (out ++ data.extract (p + 4) (p + 4 + len)) ((p + 4 + len) * 8)

/-- one deflate block after its three header bits; compressed blocks get the number of
    remaining input bits + 1 as fuel (every symbol consumes at least one bit) -/
def block (data : ByteArray) (ty : Nat) (out : ByteArray) (pos : Nat) : R ByteArray :=
  match ty with
  | 0 => storedBlock data out pos
  | 1 => codes data fixedTables.1 fixedTables.2 (8 * data.size + 1 - pos) out pos
  | 2 => dynamicBlock data (8 * data.size + 1 - pos) out pos
  | _ => .err .corrupt

def blocks (data : ByteArray) : Nat → ByteArray → Nat → R ByteArray
  | 0, _, _ => .err .fuel
  | fuel + 1, out, pos =>
      match getBit data pos with
      | .err e => .err e
      | .ok last pos1 =>
          match getBits data 2 pos1 with
          | .err e => .err e
          | .ok ty pos2 =>
              match block data ty out pos2 with
              | .err e => .err e
              | .ok out' pos3 => if last == 1 then .ok out' pos3 else blocks data fuel out' pos3

def adlerLoop (bs : ByteArray) : Nat → Nat → Nat → Nat → Nat
  | 0, _, a, b => b * 65536 + a
  | n + 1, i, a, b =>
      let a' := (a + byteAt bs i) % 65521
      adlerLoop bs n (i + 1) a' ((b + a') % 65521)

def adler32 (bs : ByteArray) : Nat := adlerLoop bs bs.size 0 1 0

def inflateZlib (input : ByteArray) : Except ZErr ByteArray :=
  if input.size < 2 then .error .eof else
  let cmf := byteAt input 0
  let flg := byteAt input 1
  if cmf % 16 != 8 || cmf / 16 > 7 || (cmf * 256 + flg) % 31 != 0 || (flg / 32) % 2 == 1 then
    .error .corrupt
  else
    -- every block consumes at least three bits: the remaining bits are more than enough fuel
    match blocks input (8 * input.size) ByteArray.empty 16 with
    | .err e => .error e
    | .ok out pos =>
        let p := (pos + 7) / 8
        if p + 4 > input.size then .error .eof else
        let stored := byteAt input p * 16777216 + byteAt input (p + 1) * 65536
                      + byteAt input (p + 2) * 256 + byteAt input (p + 3)
        if stored != adler32 out then .error .corrupt else .ok out

/-- code 1 = `InvalidInput`-class error of the harness' kind table -/
def inflate : Inflate := fun bs =>
  match inflateZlib ⟨bs.toArray⟩ with
  | .ok out => .ok out.data.toList
  | .error .eof => .err (.io .unexpectedEof)
  | .error _ => .err (.io (.other 1))

end Ase.ZlibT
