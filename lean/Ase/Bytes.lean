import Ase.Res
/-
  Byte sources and little-endian primitive readers (mirror of `src/reader.rs`).

  A reader is a state function `σ → Res (α × σ)` over an abstract source `σ` that offers
  one operation `read n` = "deliver exactly the next n bytes or fail" (`read_exact`,
  `take(n).read_to_end`).  Two sources exist: plain bytes (a chunk's own buffer, an in-memory
  file) and a scheduled stream (`Ase/Stream.lean`, property C14).
-/
namespace Ase

abbrev Bytes := List UInt8

/-- A byte source. `read n s` delivers exactly `n` bytes or an error. -/
structure Src (σ : Type) where
  read : Nat → σ → Res (Bytes × σ)

/-- Reader monad over a source state. -/
def RdS (σ α : Type) := σ → Res (α × σ)

namespace RdS
@[inline] def pure {σ α} (a : α) : RdS σ α := fun s => .ok (a, s)
@[inline] def bind {σ α β} (x : RdS σ α) (f : α → RdS σ β) : RdS σ β :=
  fun s => match x s with
    | .ok (a, s') => f a s'
    | .err e => .err e
    | .panic p => .panic p
instance {σ} : Monad (RdS σ) where
  pure := RdS.pure
  bind := RdS.bind
/-- Abort with an error. -/
@[inline] def fail {σ α} (e : Err) : RdS σ α := fun _ => .err e
/-- Lift a pure result. -/
@[inline] def lift {σ α} (r : Res α) : RdS σ α := fun s => r.map (·, s)

@[simp] theorem pure_run {σ α} (a : α) (s : σ) : (Pure.pure a : RdS σ α) s = .ok (a, s) := rfl
theorem bind_run {σ α β} (x : RdS σ α) (f : α → RdS σ β) (s : σ) :
    (x >>= f) s = match x s with
      | .ok (a, s') => f a s'
      | .err e => .err e
      | .panic p => .panic p := rfl
theorem bind_ok {σ α β} {x : RdS σ α} {f : α → RdS σ β} {s s' : σ} {a : α}
    (h : x s = .ok (a, s')) : (x >>= f) s = f a s' := by
  simp [bind_run, h]
theorem bind_err {σ α β} {x : RdS σ α} {f : α → RdS σ β} {s : σ} {e : Err}
    (h : x s = .err e) : (x >>= f) s = .err e := by
  simp [bind_run, h]
theorem bind_panic {σ α β} {x : RdS σ α} {f : α → RdS σ β} {s : σ} {p : Site}
    (h : x s = .panic p) : (x >>= f) s = .panic p := by
  simp [bind_run, h]
theorem bind_eq_ok {σ α β} {x : RdS σ α} {f : α → RdS σ β} {s s'' : σ} {b : β}
    (h : (x >>= f) s = .ok (b, s'')) : ∃ a s', x s = .ok (a, s') ∧ f a s' = .ok (b, s'') := by
  rw [bind_run] at h
  split at h
  · exact ⟨_, _, ‹_›, h⟩
  · cases h
  · cases h
theorem lift_eq_ok {σ α} {r : Res α} {s s' : σ} {a : α}
    (h : (lift r : RdS σ α) s = .ok (a, s')) : r = .ok a ∧ s' = s := by
  obtain ⟨a', rfl, h⟩ := Res.map_eq_ok h
  cases h
  exact ⟨rfl, rfl⟩
theorem bind_congr {σ α β} {x : RdS σ α} {f g : α → RdS σ β} {s : σ}
    (h : ∀ a s', x s = .ok (a, s') → f a s' = g a s') : (x >>= f) s = (x >>= g) s := by
  rw [bind_run, bind_run]
  split
  · exact h _ _ ‹_›
  · rfl
  · rfl
@[simp] theorem fail_run {σ α} (e : Err) (s : σ) : (fail e : RdS σ α) s = .err e := rfl
@[simp] theorem lift_ok {σ α} (a : α) (s : σ) : (lift (.ok a) : RdS σ α) s = .ok (a, s) := rfl
@[simp] theorem lift_err {σ α} (e : Err) (s : σ) : (lift (.err e) : RdS σ α) s = .err e := rfl
end RdS

/-- Plain bytes as a source: `read_exact` on a `Cursor<&[u8]>`. -/
def bytesRead (n : Nat) (bs : Bytes) : Res (Bytes × Bytes) :=
  if n ≤ bs.length then .ok (bs.take n, bs.drop n) else .err (.io .unexpectedEof)

/-- single-pass implementation of `bytesRead` (the definition above measures the whole
    remaining input on every read); installed for compiled code by the `csimp` theorem below -/
def takeExactAux : Nat → Bytes → Bytes → Option (Bytes × Bytes)
  | 0, acc, bs => some (acc.reverse, bs)
  | _ + 1, _, [] => none
  | n + 1, acc, b :: bs => takeExactAux n (b :: acc) bs

def bytesReadFast (n : Nat) (bs : Bytes) : Res (Bytes × Bytes) :=
  match takeExactAux n [] bs with
  | some r => .ok r
  | none => .err (.io .unexpectedEof)

theorem takeExactAux_eq : ∀ (n : Nat) (acc bs : Bytes),
    takeExactAux n acc bs =
      if n ≤ bs.length then some (acc.reverse ++ bs.take n, bs.drop n) else none := by
  intro n
  induction n with
  | zero => intro acc bs; simp [takeExactAux]
  | succ n ih =>
      intro acc bs
      cases bs with
      | nil => simp [takeExactAux]
      | cons b t =>
          simp only [takeExactAux, ih, List.length_cons, Nat.add_le_add_iff_right, List.reverse_cons,
            List.append_assoc, List.singleton_append, List.take_succ_cons, List.drop_succ_cons]

@[csimp] theorem bytesRead_eq_fast : @bytesRead = @bytesReadFast := by
  funext n bs
  unfold bytesRead bytesReadFast
  rw [takeExactAux_eq]
  split <;> simp

def bytesSrc : Src Bytes := ⟨bytesRead⟩

/-- Readers over a chunk's own buffer. -/
abbrev Rd (α : Type) := RdS Bytes α

def le16 (a b : UInt8) : UInt16 := UInt16.ofNat (a.toNat + 256 * b.toNat)
def le32 (a b c d : UInt8) : UInt32 :=
  UInt32.ofNat (a.toNat + 256 * b.toNat + 65536 * c.toNat + 16777216 * d.toNat)

section readers
variable {σ : Type} (S : Src σ)

def readN (n : Nat) : RdS σ Bytes := S.read n

def readU8 : RdS σ UInt8 := do
  let b ← S.read 1
  pure (b.getD 0 0)

def readU16 : RdS σ UInt16 := do
  let b ← S.read 2
  pure (le16 (b.getD 0 0) (b.getD 1 0))

def readI16 : RdS σ Int16 := do
  let v ← readU16 S
  pure v.toInt16

def readU32 : RdS σ UInt32 := do
  let b ← S.read 4
  pure (le32 (b.getD 0 0) (b.getD 1 0) (b.getD 2 0) (b.getD 3 0))

def readI32 : RdS σ Int32 := do
  let v ← readU32 S
  pure v.toInt32

/-- `skip_reserved(n)`: reads and discards. -/
def skip (n : Nat) : RdS σ Unit := do
  let _ ← S.read n
  pure ()

/-- Rust's `String::from_utf8` accepts exactly well-formed UTF-8. -/
def validUtf8 (bs : Bytes) : Bool := ByteArray.validateUTF8 ⟨bs.toArray⟩

/-- `AseReader::string`: u16 length, bytes, UTF-8 validation (`InvalidInput` on failure).
    The string is kept as its bytes. -/
def readString : RdS σ Bytes := do
  let len ← readU16 S
  let b ← S.read len.toNat
  if validUtf8 b then pure b else RdS.fail .invalid

end readers

/-- Everything that is left (`take_bytes` / the input handed to the inflater). -/
def readRest : Rd Bytes := fun bs => .ok (bs, [])

/-- Little-endian encoders (used by the spec layer and by round-trip lemmas). -/
def u8 (x : UInt8) : Bytes := [x]
def u16le (x : UInt16) : Bytes := [UInt8.ofNat (x.toNat % 256), UInt8.ofNat (x.toNat / 256)]
def i16le (x : Int16) : Bytes := u16le x.toUInt16
def u32le (x : UInt32) : Bytes :=
  [UInt8.ofNat (x.toNat % 256), UInt8.ofNat (x.toNat / 256 % 256),
   UInt8.ofNat (x.toNat / 65536 % 256), UInt8.ofNat (x.toNat / 16777216)]
def i32le (x : Int32) : Bytes := u32le x.toUInt32
def zeros (n : Nat) : Bytes := List.replicate n 0
/-- length-prefixed string; the caller guarantees `s.length < 65536`. -/
def strle (s : Bytes) : Bytes := u16le (UInt16.ofNat s.length) ++ s

end Ase
